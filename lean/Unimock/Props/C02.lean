import Unimock.Generated.Builder
import Unimock.Lemmas.Builder
import Unimock.Lemmas.History
import Unimock.Lemmas.BinSearch
import Unimock.Lemmas.State
/-!
# C02 — the k-th match of a pattern yields the response its quantifier chain assigns

Statement (properties.jsonl): if a pattern's responses are chained as r1 × n1, then r2 × n2, ...,
then r_last, the k-th call matching that pattern (counted over the original and all clones) receives
r_i for the first i with n1+...+ni ≥ k, and r_last for every later match when the last segment is
open-ended. A response configured without Clone is single-use: the second request for it panics
instead of producing a value.
-/
namespace Unimock
variable {α ρ : Type}

/-- the prefix sums `0, n1, n1+n2, ...` at which the chain's responders start -/
def segStart (tl : Bool) (mode : Mode) (segs : List (Segment ρ)) (i : Nat) : Nat :=
  ((segs.take i).map (Segment.advance tl mode)).sum

theorem segStart_mono (tl : Bool) (mode : Mode) (segs : List (Segment ρ)) (i j : Nat) (h : i ≤ j) :
    segStart tl mode segs i ≤ segStart tl mode segs j := by
  obtain ⟨t, ht⟩ := List.take_prefix_take_left (l := segs) h
  unfold segStart
  rw [← ht, List.map_append, List.sum_append]
  exact Nat.le_add_right _ _

/-- **C02, responders start at the prefix sums of the segment counts** (for a fresh pattern). -/
theorem C02_starts_are_prefix_sums (b : Builder α ρ) (hb : b.responders = []) (hi0 : b.idx = 0)
    (tl : Bool) (segs : List (Segment ρ)) :
    (buildChain b tl segs).responders.length = segs.length ∧
    ∀ i (h : i < segs.length), (buildChain b tl segs).responders[i]? =
      some ⟨segStart tl b.mode segs i, segs[i].stored, false⟩ := by
  rw [buildChain_eq, hb, hi0]
  refine ⟨by simp, fun i h => ?_⟩
  simp [segStart, h]

/-- **C02, k-th response (lookup form).** For the call with 0-based match index `c` (the `k = c+1`-th
    match), the responder chosen by the modelled `find_responder_by_call_index` (std binary search
    included) is segment `i`, the *greatest* index whose start `n1+…+n_i` is ≤ `c`; duplicates
    (zero-count segments) resolve to the last one. -/
theorem C02_kth_response_lookup (b : Builder α ρ) (hb : b.responders = []) (hi0 : b.idx = 0)
    (tl : Bool) (segs : List (Segment ρ)) (hne : segs ≠ []) (c : Nat) :
    ∃ i, ∃ hi : i < segs.length,
      findResponderIdx (buildChain b tl segs).responders c = some i ∧
      (buildChain b tl segs).responders[i]? = some ⟨segStart tl b.mode segs i, segs[i].stored, false⟩ ∧
      segStart tl b.mode segs i ≤ c ∧
      ∀ j, i < j → j < segs.length → c < segStart tl b.mode segs j := by
  obtain ⟨hlen, hget⟩ := C02_starts_are_prefix_sums b hb hi0 tl segs
  -- the starts are nondecreasing and begin at 0, so they have a boundary `i` for `c`
  obtain ⟨i, hi, hbd⟩ := exists_boundary (segStart tl b.mode segs) (segStart_mono tl b.mode segs) c
    (Nat.zero_le c) segs.length (List.length_pos_iff.mpr hne)
  have hfind : findResponderIdx (buildChain b tl segs).responders c = some i := by
    refine findResponderIdx_eq_some _ c i (hlen ▸ hi) fun j hj => ?_
    rw [(List.getElem_eq_iff hj).2 (hget j (hlen ▸ hj))]
    exact hbd j (hlen ▸ hj)
  exact ⟨i, hi, hfind, hget i hi, Nat.le_of_not_lt fun h => Nat.lt_irrefl i ((hbd i hi).1 h),
    fun j hij hj => (hbd j hj).2 hij⟩

/-- cumulative count `n1+…+n_{i+1}` (1-based `i+1` segments) -/
def segCum (tl : Bool) (mode : Mode) (segs : List (Segment ρ)) (i : Nat) : Nat := segStart tl mode segs (i + 1)

/-- **C02, k-th response (property form).** The `k`-th match (`k ≥ 1`) receives `r_i` for the
    *first* `i` with `n1+…+n_i ≥ k`; if no such segment exists (k lies beyond the chain's end) it
    receives the last response. -/
theorem C02_kth_response (b : Builder α ρ) (hb : b.responders = []) (hi0 : b.idx = 0)
    (tl : Bool) (segs : List (Segment ρ)) (hne : segs ≠ []) (k : Nat) (hk : 1 ≤ k) :
    ∃ i, ∃ hi : i < segs.length,
      findResponderIdx (buildChain b tl segs).responders (k - 1) = some i ∧
      ((buildChain b tl segs).responders[i]?).map (·.resp) = some segs[i].stored ∧
      (∀ j, j < i → segCum tl b.mode segs j < k) ∧
      (k ≤ segCum tl b.mode segs i ∨ i = segs.length - 1) := by
  obtain ⟨i, hi, hfind, hget, hle, hgt⟩ := C02_kth_response_lookup b hb hi0 tl segs hne (k - 1)
  refine ⟨i, hi, hfind, by rw [hget]; rfl, fun j hj => ?_, ?_⟩
  · exact Nat.lt_of_le_of_lt (Nat.le_trans (segStart_mono tl b.mode segs (j + 1) i hj) hle)
      (Nat.sub_lt hk Nat.one_pos)
  · by_cases hl : i + 1 < segs.length
    · exact .inl (Nat.le_of_pred_lt (hgt (i + 1) (Nat.lt_succ_self i) hl))
    · have hlast : segs.length = i + 1 := Nat.le_antisymm (Nat.le_of_not_lt hl) hi
      exact .inr (by rw [hlast]; rfl)

/-! ## single-use responses -/

/-- **C02, single-use: first request.** A responder stored through the once-path hands out its value
    on the first request and marks the slot empty. -/
theorem C02_once_first (m : MethodInfo) (pi : Nat) (rs : List (Responder ρ)) (c ri : Nat) (v : ρ) (st : Nat)
    (hf : findResponderIdx rs c = some ri) (hr : rs[ri]? = some ⟨st, .ret v true, false⟩) :
    respond m pi rs c = (rs.set ri ⟨st, .ret v true, true⟩, .ret v) := by
  unfold respond; simp [hf, hr]

/-- **C02, single-use: every later request panics** with `CannotReturnValueMoreThanOnce`; no value
    is produced and nothing changes. -/
theorem C02_once_again (m : MethodInfo) (pi : Nat) (rs : List (Responder ρ)) (c ri : Nat) (v : ρ) (st : Nat)
    (hf : findResponderIdx rs c = some ri) (hr : rs[ri]? = some ⟨st, .ret v true, true⟩) :
    respond m pi rs c = (rs, .err (.cannotReturnValueMoreThanOnce m pi)) := by
  unfold respond; simp [hf, hr]

/-- `respond` either leaves the responder list alone or empties exactly one full single-use slot -/
theorem respond_cases (m : MethodInfo) (pi : Nat) (rs : List (Responder ρ)) (c : Nat) :
    (respond m pi rs c).1 = rs ∨
    ∃ ri st v, rs[ri]? = some ⟨st, .ret v true, false⟩ ∧
      respond m pi rs c = (rs.set ri ⟨st, .ret v true, true⟩, .ret v) := by
  unfold respond
  cases hf : findResponderIdx rs c with
  | none => exact .inl rfl
  | some ri =>
    simp only
    cases hr : rs[ri]? with
    | none => exact .inl rfl
    | some r =>
      obtain ⟨st, resp, taken⟩ := r
      cases resp with
      | ret v once =>
        cases once with
        | false => exact .inl rfl
        | true =>
          cases taken with
          | true => exact .inl rfl
          | false => exact .inr ⟨ri, st, v, hr, rfl⟩
      | _ => exact .inl rfl

/-- **C02, slots never refill and configuration never changes**: `respond` preserves every
    responder's start and response, and a slot that is empty stays empty — so "at most one
    delivery" holds along every history (the induction over calls uses exactly this step). -/
theorem C02_respond_monotone (m : MethodInfo) (pi : Nat) (rs : List (Responder ρ)) (c : Nat) :
    ((respond m pi rs c).1).length = rs.length ∧
    ∀ (j : Nat) (r r' : Responder ρ), rs[j]? = some r → (respond m pi rs c).1[j]? = some r' →
      r'.start = r.start ∧ r'.resp = r.resp ∧ (r.taken = true → r'.taken = true) := by
  rcases respond_cases m pi rs c with h | ⟨ri, st, v, hr, h⟩
  · rw [h]
    refine ⟨rfl, ?_⟩
    intro j r r' h1 h2
    rw [h1] at h2; injection h2 with h2; subst h2; exact ⟨rfl, rfl, id⟩
  · rw [h]
    refine ⟨List.length_set .., ?_⟩
    intro j r r' h1 h2
    have hri : ri < rs.length := (List.getElem?_eq_some_iff.mp hr).1
    by_cases hj : ri = j
    · subst hj
      rw [hr] at h1; injection h1 with h1; subst h1
      simp only [List.getElem?_set_self hri] at h2
      injection h2 with h2; subst h2
      exact ⟨rfl, rfl, fun _ => rfl⟩
    · simp only [List.getElem?_set_ne hj] at h2
      rw [h1] at h2; injection h2 with h2; subst h2; exact ⟨rfl, rfl, id⟩

/-- which segments are stored single-use: exactly those that came through `returns(v)` on
    `some_call`/`next_call` and were quantified `once()` or left unquantified -/
theorem C02_single_use_iff (s : Segment ρ) (v : ρ) (o : Bool) (h : s.resp = .ret v o) :
    s.stored = .ret v true ↔ (s.viaQRV = true ∧ (s.quant = .once ∨ s.quant = .unquantified)) := by
  unfold Segment.stored
  rw [h]
  cases s.viaQRV with
  | false => simp
  | true => cases s.quant <;> simp

/-- non-vacuity + the `n_times(0)` corner: chain ret1 × 0, ret2 × 0, ret3 × 2, ret4 (open) answers 3,3,4,4 -/
example :
    let b : Builder Nat Int := { mode := .anyOrder, matcher := none, dbg := none }
    let segs : List (Segment Int) := [⟨.ret 1 false, .nTimes 0, false⟩, ⟨.ret 2 false, .nTimes 0, false⟩,
      ⟨.ret 3 false, .nTimes 2, false⟩, ⟨.ret 4 false, .unquantified, false⟩]
    (List.range 4).map (fun c => findResponderIdx (buildChain b true segs).responders c) =
      [some 2, some 2, some 3, some 3] := by decide

/-! ## the k-th match along a history -/

/-- **C02, the k-th match of a pattern along any history.** Start from a mock whose counters are 0 and make any
    history of calls (through the original or clones: they share this state), whatever their outcomes. If the next
    call is matched by pattern `pi` of its method, its outcome is that pattern's response chain asked at index
    `k - 1`, where `k - 1` is the number of earlier calls of the history matched by that same pattern — the position is
    counted per pattern, over everything that happened before, and nothing else influences which response comes. -/
theorem C02_history_kth_match (s0 : Shared α ρ) (h0 : ∀ id pi, s0.countOf id pi = 0)
    (calls : List (MethodInfo × α)) (m : MethodInfo) (a : α) (pi : Nat)
    (hsel : selected (runCalls s0 calls) m a = some pi) :
    ∃ p, (runCalls s0 calls).pat? m.id pi = some p ∧
      (evalCall (runCalls s0 calls) m a).2 = (respond m pi p.responders (matchCount m.id pi s0 calls)).2 := by
  obtain ⟨p, hp, hout⟩ := evalCall_outcome_of_selected (runCalls s0 calls) m a pi hsel
  refine ⟨p, hp, ?_⟩
  rw [hout, runCalls_countOf, h0]
  simp

/-! ### the builder's quantifier methods as the source has them (`Generated/Builder.lean`, re-translated from `src/build.rs`
and `src/counter.rs` on every run) -/

/-- `DynBuilderWrapper::quantify` as re-translated -/
def srcQuantify {α ρ} (b : Builder α ρ) (times : Nat) (e : Exactness) : Builder α ρ :=
  { b with min := Generated.addToMinimum b.min (Generated.quantifyDelta times), ex := e, idx := Generated.quantifyIdx b.idx times }

theorem C02_source_quantify {α ρ} (b : Builder α ρ) (n : Nat) (e : Exactness) : b.quantify n e = srcQuantify b n e := by
  simp [Builder.quantify, srcQuantify, Generated.addToMinimum, Generated.quantifyDelta, Generated.quantifyIdx]

/-- `QuantifiedResponse::then` as re-translated: `add_to_minimum(0, AtLeastPlusOne)`, the response index untouched -/
theorem C02_source_then {α ρ} (b : Builder α ρ) :
    b.then_ = { b with min := Generated.addToMinimum b.min Generated.thenAdd.1, ex := Generated.thenAdd.2 } := by
  simp [Builder.then_, Generated.addToMinimum, Generated.thenAdd]

/-- what a segment's quantifier does to the builder, read from the re-translated method table: which of the two impls
    (`QuantifyReturnValue` after `returns(v)`, `Quantify` otherwise) and which method; an unquantified response used as a
    clause goes through `Clause for QuantifyReturnValue` (= `once()`) or `Clause for Quantify` (per match mode) -/
def applyQuantSrc {α ρ} (b : Builder α ρ) (topLevel : Bool) (s : Segment ρ) : Builder α ρ :=
  let step (t : Option Nat × Exactness) (arg : Nat) := srcQuantify b (t.1.getD arg) t.2
  match s.quant with
  | .once => step (if s.viaQRV then Generated.qrvOnce.2 else Generated.qOnce) 0
  | .nTimes n => step (if s.viaQRV then Generated.qrvNTimes.2 else Generated.qNTimes) n
  | .atLeastTimes n => step (if s.viaQRV then Generated.qrvAtLeast.2 else Generated.qAtLeast) n
  | .unquantified =>
    if topLevel then
      if s.viaQRV then (if Generated.qrvClauseViaOnce then step Generated.qrvOnce.2 0 else b)
      else match (if b.mode = .inOrder then Generated.qClauseOrdered else Generated.qClauseUnordered) with
        | some (k, e) => srcQuantify b k e
        | none => b
    else b

theorem C02_source_apply_quant {α ρ} (b : Builder α ρ) (topLevel : Bool) (s : Segment ρ) :
    b.applyQuant topLevel s = applyQuantSrc b topLevel s := by
  unfold Builder.applyQuant applyQuantSrc
  cases s.quant with
  | unquantified =>
    -- `implicitOnce` against the two `Clause` impls
    cases topLevel
    · rfl
    · cases s.viaQRV
      · cases hm : b.mode <;> rfl
      · rfl
  | _ =>
    -- the rows of `Quantify` and `QuantifyReturnValue` pass the same count and exactness
    cases s.viaQRV <;> rfl

/-- whether the stored value is single-use, read from the same table: the conversion each `QuantifyReturnValue` method
    applies; an unquantified value is stored by `once()` when used as a clause and by `Drop` inside `stub` -/
def storedOnceSrc (q : Quant) (topLevel : Bool) : Bool :=
  match q with
  | .once => Generated.qrvOnce.1
  | .nTimes _ => Generated.qrvNTimes.1
  | .atLeastTimes _ => Generated.qrvAtLeast.1
  | .unquantified => if topLevel && Generated.qrvClauseViaOnce then Generated.qrvOnce.1 else Generated.qrvDropSingleUse

theorem C02_source_stored {ρ} (s : Segment ρ) (topLevel : Bool) (v : ρ) (o : Bool) (h : s.resp = .ret v o)
    (hq : s.viaQRV = true) : s.stored = .ret v (storedOnceSrc s.quant topLevel) := by
  unfold Segment.stored storedOnceSrc
  rw [h, hq]
  cases s.quant with
  | unquantified => cases topLevel <;> rfl
  | _ => rfl

/-- `find_responder_by_call_index` as re-translated from `src/call_pattern.rs` (empty slice: none; `Ok(i)`: responder `i`;
    `Err(i)`: responder `i - 1`, over the model of std's binary search) is the model's `findKey` -/
theorem C02_source_find_responder (keys : Array Nat) (k : Nat) : Generated.findResponderSrc keys k = findKey keys k := by
  unfold Generated.findResponderSrc
  first
    | rfl
    | (unfold findKey; split <;> simp_all)

end Unimock
