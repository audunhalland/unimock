import Unimock.Generated.Control
import Unimock.Model.Codegen.Method
import Unimock.Lemmas.Method
import Unimock.Props.C07
/-!
# C15 — default-method delegation runs the trait's own body against the same mock

Statement (properties.jsonl): when a provided method is called and no clause answers it otherwise —
or a clause says applies_default_impl() — the trait's real default body runs with the caller's
arguments, every required method it calls on self is evaluated by the same mock state as a direct call
would be, and its result is returned unchanged. This holds for &self, &mut self, by-value, Rc/Arc and
Pin<&mut Self> receivers.
-/
namespace Unimock.Codegen

/-- **C15, the CallDefaultImpl arm** exists iff the method has a default body; it calls the trait's
    own method on a `DefaultImplDelegator` obtained from the receiver in the receiver-specific way,
    with the caller's arguments in declaration order, awaited iff async. -/
theorem C15_delegate_arm_spec (s : MethodShape) :
    (genMethod s).delegate =
      (if s.hasDefault then some (delegateCtor s.recv, s.params.map (·.name), s.isAsync || s.rpit) else none) := rfl

/-- the required methods of the delegator forward to the mock with the arguments in order -/
theorem C15_delegator_forwards (s : MethodShape) :
    genDelegator s = ⟨delegatorAccessor s.recv, s.params.map (·.name), s.isAsync || s.rpit⟩ := rfl

end Unimock.Codegen

namespace Unimock
variable {α ρ : Type}

/-- the observable part of a call result: shared state, user-code log, outcome -/
def CallResult.obs (r : CallResult α ρ) : Shared α ρ × List (LogEntry α) × CallOutcome ρ := (r.shared, r.log, r.out)

/-- **C15, a call made through the delegation helper is evaluated exactly like a direct call.**
    The helper level (`0` = the instance itself, `l+1` = the helper clone hanging off level `l`) does
    not influence the shared state, the user-code log or the outcome of any call — for every
    environment of user code, at every nesting depth. Counts, ordered slots and the error log are
    therefore shared between direct calls and calls made from inside a default body. -/
theorem C15_helper_level_irrelevant (env : Env α ρ) (fuel : Nat) :
    (∀ l l' (s : Shared α ρ) m a, (callMethod env fuel l s m a).obs = (callMethod env fuel l' s m a).obs) ∧
    (∀ l l' (s : Shared α ρ) (p : Prog α ρ), (runProg env fuel l s p).obs = (runProg env fuel l' s p).obs) := by
  -- every equation of the two functions passes the level on to the calls it makes and otherwise only into `helperDepth`
  induction fuel with
  | zero =>
    refine ⟨fun l l' s m a => rfl, fun l l' s p => ?_⟩
    cases p with
    | done r => rw [runProg_done, runProg_done]
    | _ => rfl
  | succ fuel ih =>
    obtain ⟨ihc, ihp⟩ := ih
    refine ⟨fun l l' s m a => ?_, fun l l' s p => ?_⟩
    · rw [C07_continuations, C07_continuations]
      rcases call s m a with ⟨s', o⟩
      cases o with
      | contAnswer f => exact ihp l l' s' _
      | contUnmock => cases m.unmockFn; rfl; exact ihp l l' s' _
      | contDefault => dsimp only [CallResult.obs]; split; exact ihp (l + 1) (l' + 1) s' _; rfl
      | _ => rfl
    · cases p with
      | done r => rw [runProg_done, runProg_done]
      | log e k => rw [runProg_log, runProg_log]; exact congrArg (fun o => (o.1, e :: o.2.1, o.2.2)) (ihp l l' s k)
      | park k => rw [runProg_park, runProg_park]; exact ihp l l' s k
      | call m a k =>
        rw [runProg_call, runProg_call]
        have h := ihc l l' s m a
        generalize callMethod env fuel l s m a = r at h ⊢
        generalize callMethod env fuel l' s m a = r' at h ⊢
        obtain ⟨sh, lg, o, _, _⟩ := r
        obtain ⟨sh', lg', o', _, _⟩ := r'
        cases h
        cases o with
        | ret v => exact congrArg (fun o => (o.1, lg ++ o.2.1, o.2.2)) (ihp l l' sh (k v))
        | _ => rfl

/-- **C15, the default body runs exactly when evaluation says so.** -/
theorem C15_runtime_delegate (env : Env α ρ) (fuel lvl : Nat) (s s' : Shared α ρ) (m : MethodInfo) (a : α)
    (h : call s m a = (s', .contDefault)) (hd : m.hasDefaultImpl = true) :
    (callMethod env (fuel + 1) lvl s m a).obs = (runProg env fuel (lvl + 1) s' (env.dflt m a)).obs := by
  rw [C07_continuations, h]
  simp [hd, CallResult.obs]

/-! ### the helper behind delegation as the source has it (`Generated/Control.lean`) -/

/-- `AsRef` / `AsMut<DefaultImplDelegator> for Unimock` both use the helper cell through `get_or_init` with a *clone* of the
    instance: the helper shares the mock state (same patterns, counts, ordered sequence), and an existing helper — with the
    references it has lent — is reused, never replaced -/
theorem C15_source_helper_cell :
    Generated.delegatorCellRef = .getOrInitClone ∧ Generated.delegatorCellMut = .getOrInitClone := ⟨rfl, rfl⟩

end Unimock
