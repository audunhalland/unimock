import Unimock.Generated.Typestate
import Unimock.Lemmas.Gates
import Unimock.Generated.Control
import Unimock.Lemmas.Assemble
import Unimock.Generated.TupleImpls
import Unimock.Lemmas.TypestateBridge
/-!
# C14 — clause composition preserves order and rejects inconsistent setups up front

Statement (properties.jsonl): nesting clauses in tuples of any arity (1-16) and depth is equivalent
to listing their terminal clauses left to right: no clause is dropped, duplicated or reordered.
Constructing a mock fails immediately, not at call time, when a method is given both ordered and
unordered patterns (in either order, at any distance), when a stub declares no pattern, or when a
configured return cannot be produced in the current feature set; ordered patterns can only be given
exact counts and then() can only follow an exact count, both enforced at compile time.
-/
namespace Unimock
variable {α ρ : Type}

/-- every tuple impl of the table deconstructs its fields in declaration order -/
def TableInOrder (table : List (Nat × List Nat)) : Prop := ∀ row ∈ table, row.2 = List.range row.1

/-- **C14, the crate's tuple impls (regenerated from `/repo/src/clause.rs` on every run)**: arities
    are exactly 2..16 and every impl deconstructs its fields `0, 1, …, n-1` in that order. The
    quantifier is the finite table itself, so `decide` is a proof. -/
theorem C14_tuple_impls_in_order :
    Generated.tupleImpls.map (·.1) = (List.range 15).map (· + 2) ∧
    (Generated.tupleImpls.all fun row => row.2 == List.range row.1) = true := by decide

theorem generated_table_in_order : TableInOrder Generated.tupleImpls := by
  intro row hrow
  have h := C14_tuple_impls_in_order.2
  rw [List.all_eq_true] at h
  have := h row hrow
  simpa using this

theorem tupleOrder_range (table : List (Nat × List Nat)) (h : TableInOrder table) (n : Nat) :
    tupleOrder table n = List.range n := by
  unfold tupleOrder
  cases hf : table.find? (·.1 = n) with
  | none => rfl
  | some row =>
    have hmem := List.mem_of_find?_eq_some hf
    have hn : row.1 = n := by have := List.find?_some hf; simpa using this
    simp only [h row hmem, hn]

theorem range_flatMap_getD {β : Type} (kids : List (List β)) :
    ((List.range kids.length).flatMap fun i => kids[i]?.getD []) = kids.flatten := by
  induction kids with
  | nil => rfl
  | cons k ks ih =>
    rw [List.length_cons, List.range_succ_eq_map, List.flatMap_cons, List.flatMap_map]
    simp only [List.getElem?_cons_zero, Option.getD_some, List.getElem?_cons_succ, List.flatten_cons]
    rw [ih]

/-- **C14, nesting = listing left to right.** With tuple impls that deconstruct in declaration
    order, a clause tree of any shape, arity and depth hands the sink exactly `flatten tree`: every
    terminal once, in left-to-right order. -/
theorem C14_deconstruct_flatten (table : List (Nat × List Nat)) (h : TableInOrder table) :
    (∀ t : ClauseTree α ρ, deconstruct table t = flatten t) ∧
    (∀ cs : List (ClauseTree α ρ), (deconstruct.deconstructList table cs).flatten = flatten.flattenList cs) := by
  have ht : ∀ t : ClauseTree α ρ, deconstruct table t = flatten t := by
    intro t
    -- along the recursion of `flatten`; the two cases that are not `rfl`: a tuple node, a list of children
    induction t using flatten.induct
      (motive_1 := fun cs => (deconstruct.deconstructList table cs).flatten = flatten.flattenList cs) with
    | case5 cs ih => rw [deconstruct, flatten, tupleOrder_range table h, range_flatMap_getD, ih]
    | case7 c cs ih1 ih2 => rw [deconstruct.deconstructList, List.flatten_cons, flatten.flattenList, ih1, ih2]
    | _ => rfl
  refine ⟨ht, fun cs => ?_⟩
  induction cs with
  | nil => rfl
  | cons c cs ih => rw [deconstruct.deconstructList, List.flatten_cons, flatten.flattenList, ht c, ih]

/-- the crate's own tuples flatten left to right -/
theorem C14_real_tuples_flatten (t : ClauseTree α ρ) : deconstruct Generated.tupleImpls t = flatten t :=
  (C14_deconstruct_flatten Generated.tupleImpls generated_table_in_order).1 t

/-! ## rejection up front -/

/-- the first-registered mode of method `id` among the terminals pushed so far -/
def regMode (es : List (Terminal α ρ)) (id : Nat) : Option (MethodInfo × Mode) :=
  (es.find? (·.info.id = id)).map fun t => (t.info, t.b.mode)

/-- does terminal `t` offend, given the terminals `es` accepted before it -/
def offends (es : List (Terminal α ρ)) (t : Terminal α ρ) : Option AsmError :=
  if t.b.outputError then some .outputError
  else match regMode es t.info.id with
    | some (info, mode) => if mode ≠ t.b.mode then some (.modeConflict info mode t.b.mode) else none
    | none => none

/-- the assembler's table agrees with the terminals accepted so far -/
def AsmInv (a : Asm α ρ) (es : List (Terminal α ρ)) : Prop :=
  ∀ id, (a.mockers.find? (·.info.id = id)).map (fun fm => (fm.info, fm.mode)) = regMode es id

theorem push_spec (a : Asm α ρ) (es : List (Terminal α ρ)) (t : Terminal α ρ) (hinv : AsmInv a es) :
    match offends es t with
    | some e => a.push t = .error e
    | none => ∃ a', a.push t = .ok a' ∧ AsmInv a' (es ++ [t]) := by
  -- a successful push registers the terminal's mode unless its method was registered before
  have hok : ∀ a', a.push t = .ok a' → AsmInv a' (es ++ [t]) := by
    intro a' h id
    have hi := hinv id
    unfold regMode at hi ⊢
    rw [push_find a a' t h id, find?_append_one]
    by_cases hid : id = t.info.id
    · subst hid
      rw [if_pos rfl, decide_eq_true rfl, if_pos rfl]
      unfold pushedEntry
      -- by `hi`, the method has an entry iff it was registered, with that mode
      cases hf : a.mockers.find? (·.info.id = t.info.id) <;> cases hfe : es.find? (·.info.id = t.info.id) <;>
        rw [hf, hfe] at hi
      · rfl
      · cases hi
      · cases hi
      · exact hi
    · have hid' : ¬ t.info.id = id := fun h => hid h.symm
      rw [if_neg hid, decide_eq_false hid', if_neg Bool.false_ne_true, Option.or_none]
      exact hi
  unfold offends
  rw [← hinv t.info.id, push_eq]
  cases hoe : t.b.outputError with
  | true => rfl
  | false =>
    simp only [Bool.false_eq_true, ↓reduceIte]
    cases hf : a.mockers.find? (·.info.id = t.info.id) with
    | none => exact ⟨_, rfl, hok _ (by rw [push_eq, hoe, hf]; rfl)⟩
    | some fm =>
      simp only [Option.map_some]
      by_cases hm : fm.mode = t.b.mode
      · simp only [hm, ne_eq, not_true_eq_false, ↓reduceIte]
        exact ⟨_, rfl, hok _ (by rw [push_eq, hoe, hf]; simp [hm])⟩
      · simp only [ne_eq, hm, not_false_eq_true, ↓reduceIte]

/-- the verdict of scanning the deconstructed items left to right: the first offender's error -/
def firstError (es : List (Terminal α ρ)) : List (Except AsmError (Terminal α ρ)) → Option AsmError
  | [] => none
  | .error e :: _ => some e
  | .ok t :: ts =>
    match offends es t with
    | some e => some e
    | none => firstError (es ++ [t]) ts

/-- **C14, construction fails iff some terminal offends, with the error of the first offender.**
    A terminal offends when its configured return cannot be produced (`outputError`), when it is an
    empty stub, or when its method was registered earlier — at any distance — with the other mode
    (ordered after unordered or unordered after ordered). Nothing is assembled in that case
    (`Unimock::new` panics before any state exists); otherwise assembly succeeds. -/
theorem C14_assemble_error_iff (a : Asm α ρ) (es : List (Terminal α ρ)) (hinv : AsmInv a es)
    (items : List (Except AsmError (Terminal α ρ))) :
    match firstError es items with
    | some e => assembleList a items = .error e
    | none => ∃ a', assembleList a items = .ok a' := by
  induction items generalizing a es with
  | nil => exact ⟨a, rfl⟩
  | cons it items ih =>
    cases it with
    | error e => simp [firstError, assembleList]
    | ok t =>
      simp only [firstError, assembleList]
      have hp := push_spec a es t hinv
      cases ho : offends es t with
      | some e => rw [ho] at hp; simp only at hp ⊢; rw [hp]
      | none =>
        rw [ho] at hp
        obtain ⟨a', hpush, hinv'⟩ := hp
        simp only [hpush]
        exact ih a' (es ++ [t]) hinv'

theorem asmInv_empty : AsmInv ({} : Asm α ρ) ([] : List (Terminal α ρ)) := by
  intro id; rfl

/-- **C14, `Unimock::new` on a clause tree** (with the crate's real tuple impls): fails up front with
    the first offender's error, at whatever position and nesting depth it sits. -/
theorem C14_new_mock_error_iff (fb : Fallback) (c : ClauseTree α ρ) :
    match firstError [] (deconstruct Generated.tupleImpls c) with
    | some e => newMock fb c = .error e
    | none => ∃ s, newMock fb c = .ok s := by
  rw [C14_real_tuples_flatten]
  have h := C14_assemble_error_iff ({} : Asm α ρ) [] asmInv_empty (flatten c)
  unfold newMock
  cases hfe : firstError [] (flatten c) with
  | some e => rw [hfe] at h; simp only at h ⊢; rw [h]
  | none =>
    rw [hfe] at h
    obtain ⟨a', ha⟩ := h
    simp only [ha]
    exact ⟨_, rfl⟩

/-! ## the compile-time half: which builder chains type-check (Model/Typestate) -/

open Typestate in
theorem run_inOrder_no_atLeast (s s' : St) (cs : List Call) (h : Typestate.run s cs = some s') (ho : s.ord = .inOrder) :
    Call.atLeastTimes ∉ cs := by
  intro hmem
  obtain ⟨i, hi⟩ := List.getElem?_of_mem hmem
  obtain ⟨si, si', h1, h2, _⟩ := run_at h hi
  have := step_atLeast_anyOrder si si' h2
  rw [run_ord s si _ h1, ho] at this
  cases this

open Typestate in
/-- **C14, ordered patterns can only be given exact counts** (compile time): no chain that starts with
    `next_call` and type-checks contains `at_least_times`, at any position (also after `then()`). -/
theorem C14_ordered_only_exact_counts (cs : List Call) (h : accepts .nextCall cs = true) :
    Call.atLeastTimes ∉ cs := by
  unfold accepts at h
  cases hr : Typestate.run Entry.nextCall.start cs with
  | none => simp [hr] at h
  | some s' => exact run_inOrder_no_atLeast _ s' cs hr rfl

open Typestate in
theorem run_then_position (s s' : St) (cs : List Call) (h : Typestate.run s cs = some s') (i : Nat)
    (hi : cs[i]? = some .then_) :
    (i = 0 ∧ s = .quantified s.ord .exact) ∨ ∃ j, i = j + 1 ∧ (cs[j]? = some .once ∨ cs[j]? = some .nTimes) := by
  obtain ⟨si, si', h1, h2, _⟩ := run_at h hi
  have hq := step_then si si' h2
  cases i with
  | zero => cases h1; exact .inl ⟨rfl, hq⟩
  | succ j =>
    -- the state `then()` is called on is where the call before it led
    have hj : j < cs.length := Nat.lt_of_succ_lt (List.getElem?_eq_some_iff.1 hi).1
    obtain ⟨sj, sj', _, g2, g3⟩ := run_at h (List.getElem?_eq_getElem hj)
    rw [g3] at h1
    cases h1
    rw [hq] at g2
    exact .inr ⟨j, rfl, by simpa [List.getElem?_eq_getElem hj] using step_to_exact sj _ _ g2⟩

open Typestate in
/-- **C14, `then()` can only follow an exact count** (compile time): in every chain that type-checks,
    each `then()` is immediately preceded by `once()` or `n_times(_)`. -/
theorem C14_then_only_after_exact (e : Entry) (cs : List Call) (h : accepts e cs = true) (i : Nat)
    (hi : cs[i]? = some .then_) : ∃ j, i = j + 1 ∧ (cs[j]? = some .once ∨ cs[j]? = some .nTimes) := by
  unfold accepts at h
  cases hr : Typestate.run e.start cs with
  | none => simp [hr] at h
  | some s' =>
    rcases run_then_position e.start s' cs hr i hi with ⟨_, hq⟩ | h2
    · cases e <;> simp [Entry.start] at hq
    · exact h2

open Typestate in
example : accepts .nextCall [.other, .nTimes, .then_, .other] = true ∧ accepts .nextCall [.other, .atLeastTimes] = false ∧
    accepts .someCall [.other, .atLeastTimes] = true ∧ accepts .someCall [.other, .atLeastTimes, .then_] = false ∧
    accepts .someCall [.other, .then_] = false ∧ accepts .nextCall [] = false ∧ accepts .stubCall [.other, .once, .then_] = true := by
  decide

open Typestate in
/-- **C14, what the compile-time rule buys at Typestate.run time.** The assembler gives an ordered pattern the slot range
    `[cur, cur + min)` and relies on the count being exact (`exact_calls().expect(..)` in
    `MockAssembler::new_call_pattern`). Every chain of builder calls that starts with `next_call` and type-checks,
    read as a quantifier chain of the value-level builder model and used as a clause, ends with exactness `exact`
    — so that reliance is justified for every program rustc accepts. -/
theorem C14_ordered_chain_is_exact {α ρ : Type} (v : ρ) (cs : List Call) (h : accepts .nextCall cs = true)
    (fuel : Nat) (segs : List (Segment ρ)) (hs : toSegs v fuel true cs = some segs)
    (b : Builder α ρ) (hb : b.mode = .inOrder) : (buildChain b true segs).ex = .exact := by
  rw [buildChain_eq, hb]
  apply chainExactness_ordered_exact _ _ (toSegs_ne_nil v fuel true cs segs hs)
  intro s hmem n hq
  exact C14_ordered_only_exact_counts cs h (toSegs_atLeast v fuel true cs segs hs s hmem n hq)

open Typestate in
/-- non-vacuity: `next_call(..).returns(v).n_times(2).then().answers(..)` reads as two segments -/
example : ((toSegs (ρ := Int) 5 9 true [.returns true, .nTimes, .then_, .other]).map (·.length)) = some 2 ∧
    accepts .nextCall [.returns true, .nTimes, .then_, .other] = true := by decide

/-! ### `Sink::push` of the assembler as the source has it (`Generated/Control.lean`, re-translated on every run) -/

/-- the re-translated statement list of `push` with the two arms of its `Entry` match decides as the model on each of the 8
    observations: an output error is reported before anything else (no slots allocated); a mocker of the other match mode
    is reported right there, at construction; otherwise the pattern is appended / the mocker inserted -/
theorem C14_source_push_sequence :
    ∀ o : Gates.PObs, Gates.runP Generated.pushOccupied Generated.pushVacant Generated.pushSteps o false none = Gates.specPush o := by
  intro ⟨a, b, c⟩; cases a <;> cases b <;> cases c <;> rfl

/-- hence the model's `Asm.push` is the source's `push` run on what it observes -/
theorem C14_source_push {α ρ} (a : Asm α ρ) (t : Terminal α ρ) :
    match (Gates.runP Generated.pushOccupied Generated.pushVacant Generated.pushSteps (pushObs a t) false none).1 with
    | .errOutput => a.push t = .error .outputError
    | .errMode => ∃ fm, (newPattern a t.b).1.mockers.find? (·.info.id = t.info.id) = some fm ∧
        a.push t = .error (.modeConflict fm.info fm.mode t.b.mode)
    | .appended => ∃ a', a.push t = .ok a' ∧ a'.cur = (newPattern a t.b).1.cur ∧ a'.mockers.length = a.mockers.length
    | .inserted => ∃ a', a.push t = .ok a' ∧ a'.cur = (newPattern a t.b).1.cur ∧ a'.mockers.length = a.mockers.length + 1
    | .fellThrough => False := by
  rw [C14_source_push_sequence]; exact push_eq_spec a t

/-- non-vacuity: a second clause of the other mode for a known method is rejected -/
example : (Gates.runP Generated.pushOccupied Generated.pushVacant Generated.pushSteps ⟨false, true, true⟩ false none).1 = .errMode := by decide

/-! ### the type-state as the source's *signatures* have it (`Generated/Typestate.lean`, re-translated on every run) -/
section SourceTypestate
open Typestate

/-- the transition function interpreted from the re-translated signature table — which struct each builder method returns,
    its `where` bounds, the `Kind` of each marker type — is the model's `step` on every one of the 14 × 7 (state, call) pairs -/
theorem C14_source_typestate_step (s : St) (c : Call) :
    stepOf Generated.sigTable Generated.ordKind Generated.repKind s c = Typestate.step s c := by
  exact forall_step (P := fun s c => stepOf Generated.sigTable Generated.ordKind Generated.repKind s c = Typestate.step s c)
    (by decide +kernel) s c

/-- entry points: the struct and ordering marker each returns are the model's start states, and the run-time match mode
    each passes along is the one its marker names -/
theorem C14_source_entry_points :
    Generated.entryTable.all (fun (e, tag, o, mode) => mkSt tag o none true == some e.start && o == mode) = true ∧
    Generated.entryTable.map (·.1) = [.nextCall, .someCall, .eachCall, .stubCall] := by decide

/-- the builder structs that implement `Clause` are the model's `isClause` states -/
theorem C14_source_clause_structs (s : St) : s.isClause = Generated.clauseStructs.contains s.tag := by
  cases s <;> rfl

end SourceTypestate

end Unimock
