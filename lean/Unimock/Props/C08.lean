import Unimock.Generated.Control
import Unimock.Lemmas.Eval
import Unimock.Lemmas.Method
import Unimock.Model.Lifecycle
import Unimock.Props.C07
import Unimock.Props.C18
import Unimock.Props.C09
/-!
# C08 — a mock-induced panic anywhere makes final verification fail with that error

Statement (properties.jsonl): whenever the mock itself panics during a call (no matching pattern,
order violation, exhausted single-use value, explicit panics(), missing unmock or default
implementation), the error is remembered in the state shared by all clones: even if the panic is
swallowed by catch_unwind or happened on another thread, verifying the original instance fails and
its message contains the text of every such error. Panics raised by user code (answer functions,
matchers, real implementations) are not recorded and leave verification to judge the counts.
-/
namespace Unimock
variable {α ρ : Type}

theorem evalCall_reasons (s : Shared α ρ) (m : MethodInfo) (a : α) :
    (evalCall s m a).1.reasons = s.reasons := by
  rw [evalCall_eq, apply_reasons]

/-- **C08, `eval` logs exactly its own error.** After `handle_error`, the shared log is the old log
    plus the error of this call iff the call failed with a mock error; every other outcome
    (value, continuation, user panic inside a matcher) leaves the log unchanged. -/
theorem C08_call_logs (s : Shared α ρ) (m : MethodInfo) (a : α) :
    (call s m a).1.reasons =
      s.reasons ++ (match (call s m a).2 with | .err e => [e] | _ => []) := by
  unfold call
  rw [← evalCall_reasons s m a]
  rcases evalCall s m a with ⟨s', o⟩
  cases o with
  | err e => rfl
  | _ => exact (List.append_nil _).symm

/-- what a whole method call (including everything user code does underneath) adds to the log -/
def loggedBy (o : CallOutcome ρ) : List MockError :=
  match o with
  | .mockPanic e => [e]
  | _ => []

/-- **C08, a call logs exactly the mock-induced error it panics with.** For every call of a generated
    method — through any depth of answer functions, real implementations and default bodies calling
    back into the mock — the shared log afterwards is the log before plus: the mock error the call
    panicked with, if it panicked with one; nothing if it returned or if *user code* panicked. -/
theorem C08_method_call_logs (env : Env α ρ) (fuel : Nat) :
    (∀ lvl (s : Shared α ρ) m a,
      (callMethod env fuel lvl s m a).shared.reasons = s.reasons ++ loggedBy (callMethod env fuel lvl s m a).out) ∧
    (∀ lvl (s : Shared α ρ) (p : Prog α ρ),
      (runProg env fuel lvl s p).shared.reasons = s.reasons ++ loggedBy (runProg env fuel lvl s p).out) := by
  induction fuel with
  | zero =>
    refine ⟨fun lvl s m a => (List.append_nil _).symm, fun lvl s p => ?_⟩
    cases p with
    | done r => rw [runProg_done]; cases r <;> exact (List.append_nil _).symm
    | _ => exact (List.append_nil _).symm
  | succ fuel ih =>
    obtain ⟨ihc, ihp⟩ := ih
    refine ⟨fun lvl s m a => ?_, fun lvl s p => ?_⟩
    · rw [C07_continuations]
      have hl := C08_call_logs s m a
      generalize call s m a = c at hl ⊢
      obtain ⟨s', o⟩ := c
      -- a continuation is no error (`hl`: the log is as it was), and what runs next starts from it
      cases o with
      | contAnswer f => rw [← hl.trans (List.append_nil _)]; exact ihp lvl s' _
      | contUnmock => rw [← hl.trans (List.append_nil _)]; dsimp only; split; exact ihp lvl s' _; rfl
      | contDefault => rw [← hl.trans (List.append_nil _)]; dsimp only; split; exact ihp (lvl + 1) s' _; rfl
      | _ => exact hl
    · cases p with
      | done r => rw [runProg_done]; cases r <;> exact (List.append_nil _).symm
      | log e k => rw [runProg_log]; exact ihp lvl s k
      | park k => rw [runProg_park]; exact ihp lvl s k
      | call m a k =>
        rw [runProg_call]
        have h := ihc lvl s m a
        generalize callMethod env fuel lvl s m a = r at h ⊢
        obtain ⟨s', lg, o, _, _⟩ := r
        -- after a returned value the log is as it was (`h`), and the rest of the program starts from it
        cases o with
        | ret v => rw [← h.trans (List.append_nil _)]; exact ihp lvl s' (k v)
        | _ => exact h

/-- **C08, user-code panics are not recorded.** -/
theorem C08_user_panic_not_recorded (env : Env α ρ) (fuel lvl : Nat) (s : Shared α ρ) (m : MethodInfo) (a : α)
    (h : (callMethod env fuel lvl s m a).out = .userPanic) :
    (callMethod env fuel lvl s m a).shared.reasons = s.reasons := by
  rw [(C08_method_call_logs env fuel).1, h]; exact List.append_nil _

/-- **C08, a mock-induced panic is recorded**, whether or not anybody catches it. -/
theorem C08_mock_panic_recorded (env : Env α ρ) (fuel lvl : Nat) (s : Shared α ρ) (m : MethodInfo) (a : α)
    (e : MockError) (h : (callMethod env fuel lvl s m a).out = .mockPanic e) :
    (callMethod env fuel lvl s m a).shared.reasons = s.reasons ++ [e] := by
  rw [(C08_method_call_logs env fuel).1, h]; rfl

/-- **C08, final verification forwards the log.** When the original reaches the decision (on its
    creator thread, not unwinding, no clone alive) with a non-empty log, verification fails with
    exactly the logged errors — whatever the counters say. -/
theorem C08_teardown_forwards (w : World α ρ) (x : Inst) (t : Nat) (m : MockSt α ρ)
    (horig : x.original = true) (hstrong : w.strong x.sh ≤ 1) (hm : w.mocks[x.sh]? = some m)
    (ht : t = m.creator) (hr : m.shared.reasons ≠ []) :
    teardownVerdict w x t false = .errs m.shared.reasons := by
  simp [teardownVerdict, horig, Nat.not_lt.2 hstrong, hm, ht, hr]

/-! ## the error log along arbitrary histories of a whole world (instances, clones, threads) -/

/-- every mock of `w` is still there in `w'`, created by the same thread, and its error log has only grown -/
def LogLe (w w' : World α ρ) : Prop :=
  ∀ (k : Nat) (m : MockSt α ρ), w.mocks[k]? = some m →
    ∃ m' : MockSt α ρ, w'.mocks[k]? = some m' ∧ m'.creator = m.creator ∧ m.shared.reasons <+: m'.shared.reasons

theorem LogLe.refl (w : World α ρ) : LogLe w w := fun _ m h => ⟨m, h, rfl, List.prefix_refl _⟩

theorem LogLe.trans {a b c : World α ρ} (h1 : LogLe a b) (h2 : LogLe b c) : LogLe a c := by
  intro k m hm
  obtain ⟨m1, hm1, hc1, hp1⟩ := h1 k m hm
  obtain ⟨m2, hm2, hc2, hp2⟩ := h2 k m1 hm1
  exact ⟨m2, hm2, hc2.trans hc1, hp1.trans hp2⟩

theorem LogLe.of_mocks_eq {w w' : World α ρ} (h : w'.mocks = w.mocks) : LogLe w w' :=
  fun _ m hm => ⟨m, h ▸ hm, rfl, List.prefix_refl _⟩

@[simp]
theorem dropAllUnwinding_mocks (w : World α ρ) (t : Nat) (is : List Nat) : (dropAllUnwinding w t is).1.mocks = w.mocks := by
  induction is generalizing w with
  | nil => rfl
  | cons i is ih => simp only [dropAllUnwinding, ih, dropInst_mocks]

/-- a call through instance of mock `sh` only appends to that mock's log -/
theorem setShared_logLe (w : World α ρ) (sh : Nat) (ms : MockSt α ρ) (s' : Shared α ρ)
    (hms : w.mocks[sh]? = some ms) (hp : ms.shared.reasons <+: s'.reasons) : LogLe w (w.setShared sh s') := by
  intro k m hm
  have : (w.setShared sh s').mocks[k]? = some (if k = sh then { m with shared := s' } else m) := by
    simp only [World.setShared, List.getElem?_map, List.getElem?_zipIdx, hm, Option.map_some, Nat.zero_add]
  refine ⟨_, this, ?_⟩
  split
  · next hk => subst hk; cases hms.symm.trans hm; exact ⟨rfl, hp⟩
  · exact ⟨rfl, List.prefix_refl _⟩

/-- **C08, the error log of every mock is append-only under every event** — build, call (through any instance, on
    any thread), clone, drop (also while unwinding), verify, report, no_verify_in_drop, by-value consumption. -/
theorem C08_step_log_append_only (env : Env α ρ) (w : World α ρ) (e : Event α ρ) : LogLe w (step env w e).1 := by
  have hcall : ∀ (sh : Nat) (ms : MockSt α ρ) (m : MethodInfo) (a : α), w.mocks[sh]? = some ms →
      LogLe w (w.setShared sh (callMethod env fuelDefault 0 ms.shared m a).shared) := fun sh ms m a hms =>
    setShared_logLe w sh ms _ hms (by rw [(C08_method_call_logs env fuelDefault).1]; exact List.prefix_append _ _)
  cases e with
  | build i t fb c =>
    dsimp only [step]
    cases newMock fb c with
    | error e => exact LogLe.refl w
    | ok s =>
      intro k m hm
      refine ⟨m, ?_, rfl, List.prefix_refl _⟩
      rw [setInst_mocks]
      exact (List.getElem?_append_left (List.getElem?_eq_some_iff.1 hm).1).trans hm
  | call i _ m a | unwindCall i _ m a _ | consume i _ m a =>
    -- the three events look up the instance and its mock, run the method and write the mock's state back; the rest is
    -- bookkeeping of instances
    dsimp only [step]
    rcases w.inst? i with _ | x
    · exact LogLe.refl w
    dsimp only
    rcases x.alive with _ | _
    · exact LogLe.refl w
    rcases hms : w.mocks[x.sh]? with _ | ms
    · exact LogLe.refl w
    · exact (hcall x.sh ms m a hms).trans (LogLe.of_mocks_eq (by simp))
  | clone i j => exact LogLe.of_mocks_eq (C18_lifecycle_events_keep_shared env w i j 0 false).1
  | drop i t p => exact LogLe.of_mocks_eq (C18_lifecycle_events_keep_shared env w i 0 t p).2.1
  | verify i t => exact LogLe.of_mocks_eq (C18_lifecycle_events_keep_shared env w i 0 t false).2.2.1
  | noVerify i t => exact LogLe.of_mocks_eq (C18_lifecycle_events_keep_shared env w i 0 t false).2.2.2.1
  | report i t => exact LogLe.of_mocks_eq (C18_lifecycle_events_keep_shared env w i 0 t false).2.2.2.2

/-- **C08 for every history.** Whatever happens afterwards — any events on any instances and threads — an error
    that has been recorded stays in the log of its mock (and with `C08_teardown_forwards`: the original's verification
    then fails with it). -/
theorem C08_log_append_only (env : Env α ρ) (w : World α ρ) (evs : List (Event α ρ)) : LogLe w (run env w evs).1 := by
  induction evs generalizing w with
  | nil => exact LogLe.refl w
  | cons e es ih =>
    simp only [run]
    exact (C08_step_log_append_only env w e).trans (ih _)

/-! ### the error path as the source has it (`Generated/Control.lean`, re-translated on every run) -/

/-- every `Err` of `eval::eval` is handed by `private::eval` to `handle_error`, which hands it to `induce_panic`, whose
    statement list records the error in the shared log *before* it panics, and panics with the error's own text — with no
    condition on either step -/
theorem C08_source_error_path :
    Generated.evalHandlesError = true ∧ Generated.handleErrorInduces = true ∧
    Gates.runE Generated.inducePanicSteps false false = some (true, true) := by decide

/-- a continuation the generated method body cannot serve (no answer function run, no real function registered, no default
    body) is reported through the same `induce_panic`, as the error of its kind -/
theorem C08_source_report_path :
    Generated.reportInduces = true ∧ ∀ c, Generated.reportError c = Gates.specReportError c :=
  ⟨rfl, fun c => by cases c <;> rfl⟩

/-- the forwarding gate of `teardown` as the source has it: an original that reaches the decision with a non-empty log
    reports the log, whatever the counters say (read off the re-translated statement list) -/
theorem C08_source_teardown_forwards (o : Gates.Obs) (h1 : o.original = true) (h2 : o.panicking = false)
    (h3 : o.others = false) (h4 : o.otherThread = false) (h5 : o.reasons = true) :
    (Gates.run Generated.teardownSteps o {}).1 = .errsReasons := by
  rw [C09_source_teardown_sequence]; simp [Gates.specVerdict, h1, h2, h3, h4, h5]

/-- the two responder kinds that can make the mock itself panic — an explicit `panics(..)` and an exhausted single-use value —
    leave `eval::eval` as `Err(MockError::…)`, i.e. through the recording path above, not as a direct `panic!` -/
theorem C08_source_responder_errors_are_errors :
    Generated.dispatch .panic = .errExplicitPanic ∧ Generated.dispatch .ret = .returnOrCannotReturnTwice := ⟨rfl, rfl⟩

/-! ### the same path as compiled WITHOUT the std feature (`Generated.teardownStepsNoStd`, `Generated.inducePanicStepsNoStd`) -/

/-- without std, `induce_panic` still records before it panics with the error's text, and the flag it sets is the one of the
    instance the call was made on — a clone's panic leaves the original's flag alone -/
theorem C08_source_nostd_error_path :
    Gates.runE Generated.inducePanicStepsNoStd false false = some (true, true) ∧
    Gates.setsOwnFlag Generated.inducePanicStepsNoStd = true := by decide

/-- hence errors induced through clones are reported: an original whose own flag is clear (`panicking = false` in the no_std
    reading), with no clone left alive and a non-empty log, reports the log — there is no thread check without std -/
theorem C08_source_nostd_clone_errors_reported (o : Gates.Obs) (h1 : o.original = true) (h2 : o.panicking = false)
    (h3 : o.others = false) (h5 : o.reasons = true) :
    (Gates.run Generated.teardownStepsNoStd o {}).1 = .errsReasons := by
  obtain ⟨_, _, _, helperAlive, parkedAlive, otherThread, _, verifyErrs⟩ := o
  subst h1 h2 h3 h5
  revert helperAlive parkedAlive otherThread verifyErrs
  decide +kernel

end Unimock
