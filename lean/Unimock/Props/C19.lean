import Unimock.Generated.Mirrors
import Unimock.Model.Render
import Unimock.Generated.Counter
import Unimock.Model.Codegen.Matching
import Unimock.Model.Codegen.Method
/-!
# C19 — panic messages identify the call, its arguments and the pattern involved

Statement (properties.jsonl): every mock-induced panic message about a call names it as Trait::method
and — except for the missing real/default implementation errors — renders it as Trait::method(args),
args being the Debug renderings of the actual arguments in declaration order ('?' for types without
Debug); when a specific pattern is involved it is named by its source text and the file:line of its
matching! invocation. For guard-free single-alternative patterns the mismatch report lists exactly the
argument positions whose sub-pattern rejected the actual value, each with that value.
-/
namespace Unimock.Render

/-- **C19, the call is rendered as `Trait::method(arg, arg, …)`** with `?` for arguments without
    `Debug`, in the order given. -/
theorem C19_call_rendering (p : Path) (args : List (Option String)) :
    renderCall p args = p.trait ++ "::" ++ p.method ++ "(" ++ ", ".intercalate (args.map (·.getD "?")) ++ ")" := rfl

theorem prefix_append {x s t : String} : (∃ rest, s = x ++ rest) → ∃ rest, s ++ t = x ++ rest
  | ⟨r, h⟩ => ⟨r ++ t, by rw [h, String.append_assoc]⟩

/-- **C19, every message about a call starts with that call's rendering.** -/
theorem C19_error_names_call (m : Msg) (p : Path) (a : List (Option String)) (h : m.call? = some (p, a)) :
    ∃ rest, render m = renderCall p a ++ rest := by
  -- each clause of `render` appends its pieces from the left: the call, one more piece, and `prefix_append` for each further one
  cases m <;> cases h
  case noMockImplementation | noMatchingCallPatterns => exact ⟨_, rfl⟩
  case inputsNotMatched => exact prefix_append (prefix_append (prefix_append (prefix_append ⟨_, rfl⟩)))
  case explicitPanic => exact prefix_append (prefix_append (prefix_append ⟨_, rfl⟩))
  all_goals exact prefix_append (prefix_append ⟨_, rfl⟩)

/-- **C19, every message names its method as `Trait::method`** (the three errors about missing
    implementations name the path only, no argument list). -/
theorem C19_error_names_path (m : Msg) :
    (∃ pre rest, render m = pre ++ (m.path.render ++ rest)) := by
  have start {s x : String} : (∃ rest, s = x ++ rest) → ∃ pre rest, s = pre ++ (x ++ rest) :=
    fun ⟨r, h⟩ => ⟨"", r, h.trans String.empty_append.symm⟩
  -- a message about a call starts with the call, and the call with its path
  have call {m : Msg} {a} (h : m.call? = some (m.path, a)) : ∃ pre rest, render m = pre ++ (m.path.render ++ rest) := by
    obtain ⟨r, hr⟩ := C19_error_names_call m _ a h
    rw [hr]
    exact start (prefix_append (prefix_append (prefix_append ⟨_, rfl⟩)))
  cases m
  case mockNeverCalled p => exact ⟨"Mock for ", _, String.append_assoc ..⟩
  case cannotUnmock | noDefaultImpl | notAnswered => exact start ⟨_, rfl⟩
  case failedVerification =>
    exact start (prefix_append (prefix_append (prefix_append (prefix_append (prefix_append (prefix_append
      (prefix_append ⟨_, rfl⟩)))))))
  all_goals exact call rfl

/-- **C19, the pattern involved is named by source text and `file:line`** (or by its index when the
    matcher registered no debug info). -/
theorem C19_error_names_pattern (m : Msg) (p : Path) (pat : PatLoc) (h : m.pattern? = some (p, pat)) :
    ∃ pre rest, render m = pre ++ renderPattern p pat ++ rest := by
  -- what comes before the pattern, with the pattern, is what the message starts with
  cases m <;> cases h
  case explicitPanic => exact ⟨_, prefix_append ⟨_, rfl⟩⟩
  case failedVerification =>
    exact ⟨_, prefix_append (prefix_append (prefix_append (prefix_append (prefix_append ⟨_, rfl⟩))))⟩
  all_goals exact ⟨_, _, rfl⟩

theorem C19_pattern_rendering (p : Path) (src file : String) (line i : Nat) :
    renderPattern p (.debug src file line) = p.trait ++ "::" ++ p.method ++ src ++ " at " ++ file ++ ":" ++ toString line ∧
    renderPattern p (.index i) = "call pattern " ++ p.trait ++ "::" ++ p.method ++ "[#" ++ toString i ++ "]" := by
  exact ⟨rfl, by simp only [renderPattern, Path.render, String.append_assoc]⟩

/-- `impl Display for NCalls` as written in src/counter.rs (regenerated on every run) is the model's rendering of
    call counts in verification messages -/
theorem C19_source_ncalls (n : Nat) : Generated.nCallsSrc n = renderNCalls n := by
  first
    | (unfold Generated.nCallsSrc renderNCalls; split <;> simp)
    | rfl

end Unimock.Render

namespace Unimock.Matching

theorem elemReports_iff (e : Elem) (v : V) : elemReports e v = !elemAccepts e v := by
  unfold elemReports
  split
  · simp [elemAccepts, matchP]
  · rfl

/-- the positions reported for an alternative are those of its elements that reject their argument -/
theorem diagPositions_mem (alt : List Elem) (args : List V) (base i : Nat) :
    i ∈ diagPositions alt args base ↔
      ∃ k, i = k + base ∧ ∃ (h1 : k < alt.length) (h2 : k < args.length), elemAccepts alt[k] args[k] = false := by
  induction alt generalizing args base with
  | nil => exact iff_of_false List.not_mem_nil (by rintro ⟨_, _, h, _⟩; cases h)
  | cons e es ih =>
    cases args with
    | nil => exact iff_of_false List.not_mem_nil (by rintro ⟨_, _, _, h, _⟩; cases h)
    | cons v vs =>
      rw [diagPositions, List.mem_append, ih vs (base + 1), elemReports_iff, List.mem_ite_nil_right, List.mem_singleton,
        Bool.not_eq_true']
      -- position 0 is `e` against `v`; position `k + 1` is position `k` of the tails
      refine Iff.trans ?_ Nat.or_exists_add_one
      refine or_congr ?_ (exists_congr fun k => and_congr (by rw [Nat.succ_add_eq_add_succ]) ?_)
      · rw [Nat.zero_add]
        constructor
        · rintro ⟨h, hi⟩; exact ⟨hi, Nat.zero_lt_succ _, Nat.zero_lt_succ _, h⟩
        · rintro ⟨hi, _, _, h⟩; exact ⟨h, hi⟩
      · constructor
        · rintro ⟨h1, h2, h⟩; exact ⟨Nat.succ_lt_succ h1, Nat.succ_lt_succ h2, h⟩
        · rintro ⟨h1, h2, h⟩; exact ⟨Nat.lt_of_succ_lt_succ h1, Nat.lt_of_succ_lt_succ h2, h⟩

/-- **C19, the mismatch report lists exactly the rejecting positions.** For a guard-free
    single-alternative `matching!` input that rejects the arguments with diagnostics enabled, the
    reporter receives position `i` iff the sub-pattern (or `eq!`/`ne!` comparison) at position `i`
    rejects the actual value — wildcards and accepting positions are never reported. -/
theorem C19_diagnostics_positions (alt : List Elem) (args : List V)
    (hrej : specAccept ⟨[alt], none⟩ args = false) (i : Nat) :
    i ∈ (evalIR (generate ⟨[alt], none⟩) args true).2 ↔
      ∃ (h1 : i < alt.length) (h2 : i < args.length), elemAccepts alt[i] args[i] = false := by
  have hacc : (altAccepts alt args && evalG (altEnv alt args) G.tt) = false := by
    simpa [specAccept] using hrej
  simp only [evalIR, generate, List.isEmpty_cons, Bool.false_eq_true, ↓reduceIte, List.map_cons, List.map_nil,
    List.getLast?_singleton, List.cons_append, List.nil_append, evalArms, Option.getD_none, hacc]
  simp only [diagPositions_mem, Nat.add_zero, exists_eq_left']
end Unimock.Matching

namespace Unimock.Codegen

/-- **C19, `debug_inputs` yields one entry per non-receiver parameter, in declaration order**, each
    dereferenced down to the value (`&*` through `&mut`; slices as they are). -/
theorem C19_debug_inputs_positions (s : MethodShape) :
    (genMockFn s).debugExprs = s.params.map debugExpr ∧ (genMockFn s).debugExprs.length = s.params.length := by
  simp [genMockFn]

/-- the bundled mocks print the upstream trait's name: for each mirrored trait the declared name (what `MockFnInfo.path`
    carries into every message) is the mirrored trait's own (table regenerated on every run from `/repo/src/mock/*.rs`) -/
theorem C19_mirrored_traits_keep_their_names :
    (Generated.mirrorNamePairs.all fun p => p.1 == p.2) = true := by decide

end Unimock.Codegen
