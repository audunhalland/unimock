import Unimock.Model.Codegen.Matching
/-!
# C06 — `matching!` accepts exactly what the equivalent Rust `match` would accept

Statement (properties.jsonl): a matcher written as matching!(p1, ..., pn) or
matching!((...) | (...) | ...), optionally with an if-guard and eq!/ne! operands, accepts an argument
tuple exactly when a Rust match on those arguments with the same patterns, guard and ==/!= comparisons
would select an arm; matching!() accepts everything. The accept/reject decision is the same whether or
not mismatch diagnostics are collected.
-/
namespace Unimock.Matching

theorem evalArms_success_prefix (alts : List (List Elem)) (g : Option G) (tail : List Arm) (args : List V) (en : Bool) :
    evalArms (alts.map (fun a => Arm.success a g) ++ tail) args en =
      if alts.any (fun alt => altAccepts alt args && evalG (altEnv alt args) (g.getD .tt)) then (true, [])
      else evalArms tail args en := by
  induction alts with
  | nil => rfl
  | cons a as ih =>
    rw [List.map_cons, List.cons_append, evalArms, List.any_cons, ih]
    cases altAccepts a args && evalG (altEnv a args) (g.getD .tt) <;> rfl

theorem evalArms_tail_rejects (tail : List Arm) (args : List V) (en : Bool)
    (h : ∀ a ∈ tail, match a with | .success _ _ => False | _ => True) :
    (evalArms tail args en).1 = false := by
  induction tail with
  | nil => rfl
  | cons a as ih =>
    cases a with
    | success alt g => exact absurd (h _ (List.mem_cons_self)) (by simp)
    | diag alt =>
      simp only [evalArms]
      cases en with
      | true => rfl
      | false => exact ih (fun a ha => h a (List.mem_cons_of_mem _ ha))
    | catchAll => rfl

/-- **C06, the generated matcher accepts exactly when the equivalent `match` selects an arm** — for
    every input of the grammar (any number of alternatives, any patterns, `eq!`/`ne!` operands,
    optional guard over the bindings), every argument tuple, and both settings of
    `reporter.enabled()`. -/
theorem C06_matching_equiv_match (inp : Input) (args : List V) (enabled : Bool) :
    (evalIR (generate inp) args enabled).1 = specAccept inp args := by
  unfold evalIR generate specAccept
  cases inp.alts.isEmpty with
  | true => rfl
  | false =>
    simp only [Bool.false_eq_true, ↓reduceIte]
    rw [List.append_assoc, evalArms_success_prefix]
    cases inp.alts.any fun alt => altAccepts alt args && evalG (altEnv alt args) (inp.guard.getD .tt) with
    | true => rfl
    | false =>
      -- after the success arms come at most the diagnostics arm and the catch-all
      refine evalArms_tail_rejects _ _ _ fun a hmem => ?_
      rcases List.mem_append.1 hmem with h | h
      · split at h
        · cases List.mem_singleton.1 h; trivial
        · cases h
      · cases List.mem_singleton.1 h; trivial

/-- **C06, collecting diagnostics never changes the decision.** -/
theorem C06_diagnostics_do_not_decide (inp : Input) (args : List V) :
    (evalIR (generate inp) args true).1 = (evalIR (generate inp) args false).1 := by
  rw [C06_matching_equiv_match, C06_matching_equiv_match]

/-- **C06, `matching!()` accepts everything.** -/
theorem C06_empty_accepts_all (g : Option G) (args : List V) (enabled : Bool) :
    (evalIR (generate ⟨[], g⟩) args enabled).1 = true := by
  simp [evalIR, generate]

/-- how two guard token streams combine when the first is spliced in WITHOUT parentheses before
    `&& rest` (the behaviour of the code before the repair): `a || b && r` parses as `a || (b && r)` -/
def spliceUnparenthesized : G → G → G
  | .or a b, r => .or a (spliceUnparenthesized b r)
  | g, r => .and g r

/-- **Defect repaired by the `fix:` commit** (kept as a machine-checked witness): with the guard
    spliced unparenthesised, `matching!((eq!(&1), y) if *y == 0 || *y == 5)` accepts `(2, 0)`,
    although the equivalent `match` rejects it (the comparison `m0 == l0` is false). -/
example :
    let guard := G.or (.eqc 1 0) (.eqc 1 5)          -- *y == 0 || *y == 5
    let cmpHolds := G.eqc 0 1                        -- the eq!(&1) comparison on the first argument
    let env : Env := [(0, .n 2), (1, .n 0)]          -- arguments (2, 0)
    evalG env (spliceUnparenthesized guard cmpHolds) = true ∧ evalG env (.and guard cmpHolds) = false := by
  decide +kernel

/-- non-vacuity: two alternatives with a guard over a binding -/
example :
    let inp : Input := ⟨[[.pat (.bind 0), .pat (.lit 2)], [.pat (.lit 1), .pat .wild]], some (.ltc 0 3)⟩
    specAccept inp [.n 5, .n 2] = false ∧ specAccept inp [.n 2, .n 2] = true := by decide +kernel

end Unimock.Matching
