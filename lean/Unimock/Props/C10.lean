import Unimock.Lemmas.SoloRun
import Unimock.Lemmas.Assemble
/-!
# C10 — counting, sequencing and ordering are exact under every thread interleaving

Statement (properties.jsonl): when clones of a mock (or a shared &Unimock) are called concurrently,
every accepted call gets a distinct position: N concurrent matches of a pattern receive precisely the
responses of positions 1..N, N concurrent ordered calls occupy N distinct consecutive slots, and
after joining the threads the verification verdict equals that of the same calls made sequentially.
No call is lost, counted twice or given another call's position, for any schedule.

The quantifier "for any schedule" is discharged by quantifying over *every list of atomic actions*:
whatever the threads' programs and however a scheduler interleaves them, the execution is some list
of `Action`s applied one after the other to the shared state.
-/
namespace Unimock
variable {α ρ : Type}

/-- the values handed out to the `bumpPat id pi` actions of an execution, in execution order -/
def patPositions (id pi : Nat) : List Action → List ActResult → List Nat
  | a :: as, r :: rs =>
    match a, r with
    | .bumpPat id' pi', .idx n => if id' = id ∧ pi' = pi then n :: patPositions id pi as rs else patPositions id pi as rs
    | _, _ => patPositions id pi as rs
  | _, _ => []

def globalPositions : List Action → List ActResult → List Nat
  | a :: as, r :: rs =>
    match a, r with
    | .bumpGlobal, .idx n => n :: globalPositions as rs
    | _, _ => globalPositions as rs
  | _, _ => []

def countBumps (id pi : Nat) (as : List Action) : Nat := (as.filter (· == .bumpPat id pi)).length
def countGlobal (as : List Action) : Nat := (as.filter (· == .bumpGlobal)).length

theorem patCount_applyAction (s : Shared α ρ) (a : Action) (id pi : Nat) (h : s.hasPat id pi) :
    (applyAction s a).1.patCount id pi = s.patCount id pi + (if a = .bumpPat id pi then 1 else 0) := by
  obtain ⟨p, hp⟩ := (hasPat_iff s id pi).1 h
  cases a with
  | bumpGlobal => simp [applyAction, patCount_eq, Shared.pat?, Shared.find]
  | pushReason e => simp [applyAction, patCount_eq, Shared.pat?, Shared.find, Shared.induce]
  | bumpPat id' pi' =>
    simp only [applyAction, patCount_eq, pat?_mapPat, hp, Action.bumpPat.injEq, eq_comm (a := id'), eq_comm (a := pi')]
    split <;> simp
  | takeSlot id' pi' ri =>
    simp only [applyAction]
    split
    · simp
    · simp only [patCount_eq, pat?_mapPat, hp]; split <;> simp

theorem patPositions_cons_ne (id pi : Nat) (a : Action) (as : List Action) (r : ActResult) (rs : List ActResult)
    (ha : a ≠ .bumpPat id pi) : patPositions id pi (a :: as) (r :: rs) = patPositions id pi as rs := by
  cases a <;> cases r <;> simp only [patPositions]
  rw [if_neg fun h => ha (by rw [h.1, h.2])]

/-- **C10, positions of a pattern are exact under every interleaving.** Along *any* execution, the
    positions handed to the calls that selected pattern `(id, pi)` are `c, c+1, …, c+N-1` in
    execution order (`c` = count before, `N` = number of such calls): pairwise distinct, no gap, none
    handed out twice — and the counter ends at `c + N`: no match is lost or counted twice. -/
theorem C10_positions_exact (s : Shared α ρ) (as : List Action) (id pi : Nat) (h : s.hasPat id pi) :
    patPositions id pi as (runActions s as).2 = List.range' (s.patCount id pi) (countBumps id pi as) ∧
    (runActions s as).1.patCount id pi = s.patCount id pi + countBumps id pi as := by
  induction as generalizing s with
  | nil => simp [runActions, patPositions, countBumps]
  | cons a as ih =>
    have hc := patCount_applyAction s a id pi h
    obtain ⟨ih1, ih2⟩ := ih _ (hasPat_applyAction s a id pi h)
    simp only [runActions]
    by_cases ha : a = .bumpPat id pi
    · subst ha
      rw [if_pos rfl] at hc
      rw [hc] at ih1 ih2
      have hn : countBumps id pi (.bumpPat id pi :: as) = countBumps id pi as + 1 := by simp [countBumps]
      rw [hn, List.range'_succ, ← ih1, ih2]
      exact ⟨by simp [patPositions, applyAction], by omega⟩
    · rw [if_neg ha] at hc
      rw [hc] at ih1 ih2
      rw [patPositions_cons_ne id pi a as _ _ ha, ih1, ih2]
      simp [countBumps, ha]

theorem nextOrdered_applyAction (s : Shared α ρ) (a : Action) :
    (applyAction s a).1.nextOrdered = s.nextOrdered + (if a = .bumpGlobal then 1 else 0) := by
  cases a with
  | takeSlot id pi ri => simp only [applyAction]; split <;> rfl
  | _ => rfl

theorem globalPositions_cons_ne (a : Action) (as : List Action) (r : ActResult) (rs : List ActResult)
    (ha : a ≠ .bumpGlobal) : globalPositions (a :: as) (r :: rs) = globalPositions as rs := by
  cases a <;> cases r <;> first | rfl | exact absurd rfl ha

/-- **C10, ordered slots are distinct and consecutive under every interleaving.** The global slot
    numbers handed to ordered calls are `n, n+1, …, n+K-1` in execution order. -/
theorem C10_slots_exact (s : Shared α ρ) (as : List Action) :
    globalPositions as (runActions s as).2 = List.range' s.nextOrdered (countGlobal as) ∧
    (runActions s as).1.nextOrdered = s.nextOrdered + countGlobal as := by
  induction as generalizing s with
  | nil => simp [runActions, globalPositions, countGlobal]
  | cons a as ih =>
    have hc := nextOrdered_applyAction s a
    obtain ⟨ih1, ih2⟩ := ih (applyAction s a).1
    simp only [runActions]
    by_cases ha : a = .bumpGlobal
    · subst ha
      rw [if_pos rfl] at hc
      rw [hc] at ih1 ih2
      have hn : countGlobal (.bumpGlobal :: as) = countGlobal as + 1 := by simp [countGlobal]
      rw [hn, List.range'_succ, ← ih1, ih2]
      exact ⟨rfl, by omega⟩
    · rw [if_neg ha] at hc
      rw [hc] at ih1 ih2
      rw [globalPositions_cons_ne a as _ _ ha, ih1, ih2]
      simp [countGlobal, ha]

/-- **C10, the final counters do not depend on the schedule.** Two executions performing the same
    atomic actions in different orders (any permutation: any other interleaving of the same calls)
    end with the same pattern counters and the same ordered index — hence the same verification
    verdict as the sequential execution of those calls. -/
theorem C10_final_counts_schedule_independent (s : Shared α ρ) (as bs : List Action) (hperm : as.Perm bs)
    (id pi : Nat) (h : s.hasPat id pi) :
    (runActions s as).1.patCount id pi = (runActions s bs).1.patCount id pi ∧
    (runActions s as).1.nextOrdered = (runActions s bs).1.nextOrdered := by
  rw [(C10_positions_exact s as id pi h).2, (C10_positions_exact s bs id pi h).2,
      (C10_slots_exact s as).2, (C10_slots_exact s bs).2]
  unfold countBumps countGlobal
  exact ⟨by rw [(hperm.filter _).length_eq], by rw [(hperm.filter _).length_eq]⟩

theorem reasons_applyAction (s : Shared α ρ) (a : Action) :
    (applyAction s a).1.reasons = s.reasons ++ (match a with | .pushReason e => [e] | _ => []) := by
  cases a with
  | takeSlot id pi ri => simp only [applyAction]; split <;> simp [Shared.mapPat]
  | pushReason e => rfl
  | _ => simp [applyAction, Shared.mapPat]

/-- **C10/C08, racing error reports are all kept**: the final log is the initial log followed by
    every pushed error, in push order. -/
theorem C10_racing_reasons_all_kept (s : Shared α ρ) (as : List Action) :
    (runActions s as).1.reasons =
      s.reasons ++ as.filterMap (fun a => match a with | .pushReason e => some e | _ => none) := by
  induction as generalizing s with
  | nil => simp [runActions]
  | cons a as ih =>
    simp only [runActions]
    rw [ih, reasons_applyAction]
    cases a <;> simp

/-- non-vacuity: two racing bumps of one pattern get positions 0 and 1 whatever else is interleaved -/
example :
    let p : Pattern Nat Int := ⟨none, none, [], 0, 0, 0, .atLeast, 0⟩
    let s : Shared Nat Int := ⟨.error, [⟨⟨7, "T", "f", false, false, false⟩, .anyOrder, [p]⟩], 0, []⟩
    patPositions 7 0 [.bumpPat 7 0, .bumpGlobal, .bumpPat 7 0]
      (runActions s [.bumpPat 7 0, .bumpGlobal, .bumpPat 7 0]).2 = [0, 1] := by decide

/-! ## the interleaving model run without interference is the sequential model

The theorems above speak about lists of atomic actions; the other properties' theorems speak about the
sequential `call`. The two models are the same thing seen at two granularities: a thread of the
interleaving model, scheduled alone until it has finished, makes its calls exactly as `call` does.
Together with the schedule-independence theorems this is the sequential reference the property's
"equals that of the same calls made sequentially" refers to. -/

/-- **C10, a thread that nobody interleaves with is the sequential run** — for every mock assembled
    from clauses (more generally: distinct method ids) and every list of calls: after `5·n+5`
    scheduling steps the thread has finished, its outcomes are those of `call` applied one after the
    other, and the shared state (counters, ordered index, single-use slots, error log) is the same. -/
theorem C10_solo_thread_is_sequential (s : Shared α ρ) (hu : s.UniqueIds) (calls : List (MethodInfo × α)) :
    let r := soloRun (5 * calls.length + 5) (s, ({ todo := calls } : ThreadSt α ρ))
    r.2.isFinished = true ∧ r.2.outs = (seqCalls s calls).2 ∧ r.1 = (seqCalls s calls).1 := by
  have := soloRun_spec (5 * calls.length + 5) s ({ todo := calls } : ThreadSt α ρ) hu
    (by simp [ThreadSt.measure, Phase.rank])
  simpa [remaining] using this

/-- every mock built by `Unimock::new` from clauses satisfies the hypothesis of the theorem above -/
theorem C10_assembled_mocks_have_distinct_ids (fb : Fallback) (c : ClauseTree α ρ) (s : Shared α ρ)
    (h : newMock fb c = .ok s) : s.UniqueIds := newMock_uniqueIds fb c s h

/-- one call, cut into its atomic actions and run alone, is `call` -/
theorem C10_atomic_call_is_call (s : Shared α ρ) (hu : s.UniqueIds) (m : MethodInfo) (a : α) :
    finish 4 s (beginCall s m a) = ((call s m a).1, some (ThreadOut.ofEval (call s m a).2)) :=
  finish_begin_eq_call s hu m a

/-- non-vacuity: a two-call thread over an ordered single-use pattern (second call over-runs) -/
example :
    let mi : MethodInfo := ⟨7, "T", "f", false, false, false⟩
    let p : Pattern Nat Int := ⟨some (fun _ => some true), none, [⟨0, .ret 5 true, false⟩], 0, 1, 1, .exact, 0⟩
    let s : Shared Nat Int := ⟨.error, [⟨mi, .inOrder, [p]⟩], 0, []⟩
    (soloRun 15 (s, ({ todo := [(mi, 1), (mi, 2)] } : ThreadSt Nat Int))).2.outs
      = [.ret 5, .err (.callOrderNotMatched mi 1 none)] := by decide

end Unimock
