import Unimock.Lemmas.Verify
import Unimock.Lemmas.History
import Unimock.Generated.Counter
import Unimock.Lemmas.Builder
import Unimock.Model.Lifecycle
/-!
# C03 — verification fails exactly when an expectation is unmet, and names each one

Statement (properties.jsonl): when the original mock is verified (drop, verify() or report()) after
a history without mock-induced panics, it fails iff some pattern's match count violates its
quantifier (exactly n; at least n; at least n+1 after a trailing then) or some method mentioned in a
clause was never matched at all; otherwise it is silent. The failure text has one line for every
violated expectation, naming that pattern or method, and none for satisfied ones.
-/
namespace Unimock
variable {α ρ : Type}

/-- **C03, verdict.** Verification is silent iff every pattern's expectation is met and every
    mentioned method was matched at least once. -/
theorem C03_verify_iff (s : Shared α ρ) :
    verifyAll s = [] ↔
      ∀ fm ∈ s.mockers, (∀ p ∈ fm.pats, PatOk p) ∧ 0 < (fm.pats.map (·.count)).sum := by
  unfold verifyAll
  simp only [List.flatMap_eq_nil_iff, verifyMocker_nil_iff]

/-- **C03, one line per violated expectation, none for satisfied ones.** The errors of one method
    are: for each pattern whose count violates its quantifier, in declaration order, one
    `FailedVerification` naming that pattern (index / debug location), its bound and its actual
    count; then one `MockNeverCalled` naming the method iff its total is 0. -/
theorem C03_lines (fm : FnMocker α ρ) :
    verifyMocker fm =
      ((fm.pats.zipIdx.filter fun x => !countOk x.1).map fun x => patLine fm.info (x.2, x.1)) ++
      (if (fm.pats.map (·.count)).sum = 0 then [.mockNeverCalled fm.info] else []) := by
  unfold verifyMocker
  rw [← flatMap_verifyPat]

/-- the number of lines is the number of violated expectations -/
theorem C03_line_count (fm : FnMocker α ρ) :
    (verifyMocker fm).length =
      (fm.pats.filter fun p => !countOk p).length +
      (if (fm.pats.map (·.count)).sum = 0 then 1 else 0) := by
  -- numbering the patterns does not change which of them a test on the pattern alone selects
  have : (fm.pats.filter fun p => !countOk p) = (fm.pats.zipIdx.filter fun x => !countOk x.1).map Prod.fst :=
    (congrArg _ (List.zipIdx_map_fst 0 fm.pats).symm).trans List.filter_map
  rw [C03_lines, this, List.length_append, List.length_map, List.length_map, apply_ite List.length]
  rfl

/-- **C03, which quantifier is checked**: `exactly n`, `at least n`, `at least n+1`. -/
theorem C03_quantifier_meaning (p : Pattern α ρ) :
    (countOk p = true ↔ PatOk p) ∧
    (p.ex = .exact → (PatOk p ↔ p.count = p.min)) ∧
    (p.ex = .atLeast → (PatOk p ↔ p.min ≤ p.count)) ∧
    (p.ex = .atLeastPlusOne → (PatOk p ↔ p.min + 1 ≤ p.count)) := by
  refine ⟨countOk_iff p, ?_, ?_, ?_⟩ <;> intro h <;> unfold PatOk <;> rw [h]

/-- **C03, the expectation a quantifier chain produces** (closed form): the minimum is the sum of
    the segment counts (an unquantified last segment adds 1 exactly when it is implicitly `once`),
    and the exactness is decided by the last segment: `exact` for `once`/`n_times`, `atLeast` for
    `at_least_times`, and for an unquantified last segment `exact` when implicitly once, otherwise
    `atLeastPlusOne` after a `then` and the initial `atLeast` (minimum 0) for a lone segment. -/
theorem C03_expectation_of_chain (b : Builder α ρ) (tl : Bool) (segs : List (Segment ρ)) :
    (buildChain b tl segs).min = b.min + (segs.map (Segment.advance tl b.mode)).sum ∧
    (buildChain b tl segs).ex = chainExactness tl b.mode b.ex segs := by
  rw [buildChain_eq]
  exact ⟨rfl, rfl⟩

/-- **C03, teardown forwards to verification.** When the original instance is torn down on its
    creator thread, not while unwinding, with no clone alive and an empty error log, the result
    is exactly the verification verdict. -/
theorem C03_teardown_verdict (w : World α ρ) (x : Inst) (t : Nat) (m : MockSt α ρ)
    (horig : x.original = true) (hstrong : w.strong x.sh ≤ 1) (hm : w.mocks[x.sh]? = some m)
    (ht : t = m.creator) (hr : m.shared.reasons = []) :
    teardownVerdict w x t false =
      (if (verifyAll m.shared).isEmpty then .ok else .errs (verifyAll m.shared)) := by
  unfold teardownVerdict
  have h1 : ¬ (w.strong x.sh > 1) := by omega
  simp [horig, h1, hm, ht, hr]

/-- non-vacuity: a state with one satisfied and one violated expectation yields exactly one line -/
example :
    let p0 : Pattern Nat Int := ⟨none, none, [], 0, 0, 2, .exact, 2⟩
    let p1 : Pattern Nat Int := ⟨none, none, [], 0, 0, 1, .atLeastPlusOne, 1⟩
    let m : MethodInfo := ⟨0, "T", "f", false, false, false⟩
    verifyMocker (⟨m, .anyOrder, [p0, p1]⟩ : FnMocker Nat Int) = [.failedVerification m 1 true 2 1] := by
  decide +kernel

/-! ## "match count" means what it says: counters along a history -/

/-- **C03, a pattern's counter is the number of calls it answered.** For every state and every history
    of calls (whatever their outcomes — answered, rejected, mock-induced or user panics), the counter of
    pattern `(id, pi)` grows by exactly the number of calls of method `id` that were matched by that
    pattern: unordered, the first pattern whose matcher accepts (C01); ordered, the owner of the current
    slot when its matcher accepts (C04). No call is counted for a pattern that did not answer it. -/
theorem C03_counts_are_matches (s : Shared α ρ) (calls : List (MethodInfo × α)) (id pi : Nat) :
    (runCalls s calls).countOf id pi = s.countOf id pi + matchCount id pi s calls :=
  runCalls_countOf s calls id pi

/-- … read at the table entry verification inspects: in a mock with distinct method ids whose counters
    start at 0, after any history every pattern's `count` is its number of matches in that history —
    so `C03_verify_iff` is a statement about the history. -/
theorem C03_final_count_is_matches (s0 : Shared α ρ) (hu : s0.UniqueIds) (calls : List (MethodInfo × α))
    (h0 : ∀ id pi, s0.countOf id pi = 0)
    (fm : FnMocker α ρ) (hm : fm ∈ (runCalls s0 calls).mockers) (pi : Nat) (p : Pattern α ρ)
    (hp : fm.pats[pi]? = some p) : p.count = matchCount fm.info.id pi s0 calls := by
  have hu' := uniqueIds_runCalls s0 calls hu
  rw [← countOf_of_mem (runCalls s0 calls) hu' fm hm pi p hp, C03_counts_are_matches, h0]
  omega

/-- non-vacuity: three calls, two of them matched by pattern 0 (first match wins over the catch-all) -/
example :
    let mi : MethodInfo := ⟨7, "T", "f", false, false, false⟩
    let p0 : Pattern Nat Int := ⟨some (fun a => some (a == 1)), none, [⟨0, .ret 5 false, false⟩], 0, 0, 0, .atLeast, 0⟩
    let p1 : Pattern Nat Int := ⟨some (fun _ => some true), none, [⟨0, .ret 6 false, false⟩], 0, 0, 0, .atLeast, 0⟩
    let s : Shared Nat Int := ⟨.error, [⟨mi, .anyOrder, [p0, p1]⟩], 0, []⟩
    matchCount 7 0 s [(mi, 1), (mi, 2), (mi, 1)] = 2 ∧ matchCount 7 1 s [(mi, 1), (mi, 2), (mi, 1)] = 1 := by decide +kernel

/-! ## the verification conditions as written in the source

`Generated/Counter.lean` is produced on every run by `tools/translate_counter.py` from the text of
`CallCountExpectation::lower_bound`, `CallCounter::verify` (src/counter.rs) and `FnMocker::verify`
(src/fn_mocker.rs). The model's `lowerBound` / `countOk` / never-called test — which all theorems above are
about — are proved equal to those translations. -/

theorem C03_source_lower_bound (min : Nat) (ex : Exactness) : Generated.lowerBoundSrc min ex = lowerBound min ex := by
  cases ex <;> simp [Generated.lowerBoundSrc, lowerBound]

theorem C03_source_verify_condition (p : Pattern α ρ) :
    Generated.verifyFailsSrc p.count (Generated.lowerBoundSrc p.min p.ex) p.ex = !countOk p := by
  rw [C03_source_lower_bound]
  unfold countOk
  cases h : p.ex <;> simp only [Generated.verifyFailsSrc, lowerBound]
  · by_cases hc : p.count = p.min <;> simp [hc]
  · by_cases hc : p.min ≤ p.count
    · simp [hc, Nat.not_lt.2 hc]
    · simp [hc, Nat.lt_of_not_le hc]
  · by_cases hc : p.min + 1 ≤ p.count
    · simp [hc, Nat.not_lt.2 hc]
    · simp [hc, Nat.lt_of_not_le hc]

theorem C03_source_never_called (fm : FnMocker α ρ) :
    Generated.neverCalledSrc ((fm.pats.map (·.count)).sum) = decide ((fm.pats.map (·.count)).sum = 0) := by
  simp [Generated.neverCalledSrc]

end Unimock
