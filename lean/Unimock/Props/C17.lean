import Unimock.Model.Output
import Unimock.Lemmas.OutputKind
/-!
# C17 — composite returns reproduce the configured value shape-for-shape

Statement (properties.jsonl): for methods returning Option, Result, Vec, Poll or tuples — nested, and
mixing owned parts with parts borrowed from self — the value the caller observes is structurally equal
to the value passed to returns(): same variant, same element order and count, same leaf values,
borrowed leaves pointing into the mock. Borrowed leaves can be returned on every call; owned leaves
are single-use exactly when the response was configured through a single-use path (see C12).
-/
namespace Unimock.Output

/-- what the single-use path guarantees for one stored value -/
def OnceSpec (has : Bool) (v : Val) (s : Stored) : Prop :=
  (output s).1 = some v ∧
  (output (output s).2).1 = (if has then none else some v) ∧
  (has = false → (output s).2 = s)

def OnceSpecList (has : Bool) (vs : ValList) (ss : StoredList) : Prop :=
  (outputList ss).1 = some vs ∧
  (outputList (outputList ss).2).1 = (if has then none else some vs) ∧
  (has = false → (outputList ss).2 = ss)

/-- The same guarantee for any `out`: `OnceSpec` unfolds to `OnceSpecOf output` and `OnceSpecList` to
    `OnceSpecOf outputList`, so what depends only on the shape of the guarantee is proved once. -/
def OnceSpecOf {α σ : Type} (out : σ → Option α × σ) (has : Bool) (a : α) (x : σ) : Prop :=
  (out x).1 = some a ∧ (out (out x).2).1 = (if has then none else some a) ∧ (has = false → (out x).2 = x)

section
variable {α σ : Type} {out : σ → Option α × σ}

theorem onceSpecOf_false {a : α} {x : σ} : OnceSpecOf out false a x ↔ out x = (some a, x) :=
  ⟨fun ⟨h1, _, h3⟩ => Prod.ext h1 (h3 rfl), fun h => by simp [OnceSpecOf, h]⟩

/-- a constructor `g` of stores whose output is the constructor `f` around the output of what it holds
    (`Some`, `Ok`, `Err`, `Ready` around a value; `Vec`, a tuple around a list) passes the guarantee on -/
theorem onceSpec_wrap (f : α → Val) (g : σ → Stored)
    {has : Bool} {a : α} {x : σ} (hout : ∀ x, output (g x) = ((out x).1.map f, g (out x).2))
    (h : OnceSpecOf out has a x) : OnceSpec has (f a) (g x) := by
  obtain ⟨h1, h2, h3⟩ := h
  refine ⟨by rw [hout, h1]; rfl, ?_, ?_⟩
  · rw [hout]; simp only; rw [hout, h2]; cases has <;> rfl
  · intro hh; rw [hout]; simp only; rw [h3 hh]

/-- `onceSpec_wrap` in the form the composite kinds of `intoReturn` use it: `o.map g` is what was stored -/
theorem onceSpec_map (f : α → Val) (g : σ → Stored)
    {has : Bool} {a : α} (hout : ∀ x, output (g x) = ((out x).1.map f, g (out x).2)) {o : Option σ}
    (h : ∀ x, o = some x → OnceSpecOf out has a x) (s : Stored) (hs : o.map g = some s) :
    OnceSpec has (f a) s := by
  obtain ⟨x, hx, rfl⟩ := Option.map_eq_some_iff.1 hs
  exact onceSpec_wrap f g hout (h x hx)

end

theorem onceSpec_false {v : Val} {s : Stored} : OnceSpec false v s ↔ output s = (some v, s) :=
  onceSpecOf_false

theorem onceSpecList_false {vs : ValList} {ss : StoredList} :
    OnceSpecList false vs ss ↔ outputList ss = (some vs, ss) :=
  onceSpecOf_false

theorem onceSpec_owned (v : Val) (once : Bool) : OnceSpec once v (.owned v once) := by
  cases once <;> simp [OnceSpec, output]

theorem outputList_cons_some {s : Stored} {v : Val} (h : (output s).1 = some v) (ss : StoredList) :
    outputList (.cons s ss) = ((outputList ss).1.map (.cons v), .cons (output s).2 (outputList ss).2) := by
  simp only [outputList, h]

theorem outputList_cons_none {s : Stored} (h : (output s).1 = none) (ss : StoredList) :
    (outputList (.cons s ss)).1 = none := by
  simp only [outputList, h]

theorem onceSpecList_cons (h1 h2 : Bool) (v : Val) (vs : ValList) (s : Stored) (ss : StoredList)
    (hv : OnceSpec h1 v s) (hvs : OnceSpecList h2 vs ss) :
    OnceSpecList (h1 || h2) (.cons v vs) (.cons s ss) := by
  obtain ⟨a1, a2, a3⟩ := hv
  obtain ⟨b1, b2, b3⟩ := hvs
  have e := outputList_cons_some a1 ss
  refine ⟨by rw [e, b1]; rfl, ?_, fun hh => ?_⟩
  · -- the second evaluation stops at the head if that is spent, and else depends on the tail
    rw [e]
    cases h1
    · rw [outputList_cons_some a2, b2]; cases h2 <;> rfl
    · exact outputList_cons_none a2 _
  · rw [Bool.or_eq_false_iff] at hh
    rw [e, a3 hh.1, b3 hh.2]

theorem C17_lent_list : (vs : ValList) → outputList (lentList vs) = (some vs, lentList vs)
  | .nil => rfl
  | .cons v vs => onceSpecList_false.1 <|
      onceSpecList_cons false false v vs _ _ (onceSpec_false.2 rfl) (onceSpecList_false.2 (C17_lent_list vs))

theorem intoReturnAll_cons_eq_some {once : Bool} {k : Kind} {v : Val} {vs : ValList} {ss : StoredList}
    (h : intoReturnAll once k (.cons v vs) = some ss) :
    ∃ s ss', intoReturn once k v = some s ∧ intoReturnAll once k vs = some ss' ∧ ss = .cons s ss' := by
  rw [intoReturnAll] at h
  split at h
  · rename_i s ss' hs hss; exact ⟨s, ss', hs, hss, (Option.some.inj h).symm⟩
  · cases h

theorem intoReturnZip_cons_eq_some {once : Bool} {k : Kind} {ks : KindList} {v : Val} {vs : ValList}
    {ss : StoredList} (h : intoReturnZip once (.cons k ks) (.cons v vs) = some ss) :
    ∃ s ss', intoReturn once k v = some s ∧ intoReturnZip once ks vs = some ss' ∧ ss = .cons s ss' := by
  rw [intoReturnZip] at h
  split at h
  · rename_i s ss' hs hss; exact ⟨s, ss', hs, hss, (Option.some.inj h).symm⟩
  · cases h

/-- **C17, both paths at once**: whatever `into_return` (`once = false`) or `into_return_once`
    (`once = true`) stores for a kind satisfies the guarantee, and the second call fails exactly when the
    single-use path was taken and an owned leaf sits on the populated path of the value. By induction
    along `intoReturn`, for a value, for the elements of a tuple and for the elements of a `Vec`. -/
theorem onceSpec_of_intoReturn (once : Bool) :
    (∀ k v s, intoReturn once k v = some s → OnceSpec (hasOwned k v && once) v s) ∧
    (∀ ks vs ss, intoReturnZip once ks vs = some ss → OnceSpecList (hasOwnedZip ks vs && once) vs ss) ∧
    (∀ k vs ss, intoReturnAll once k vs = some ss → OnceSpecList (hasOwnedAll k vs && once) vs ss) := by
  refine intoReturn.mutual_induct_unfolding once
    (fun k v r => ∀ s, r = some s → OnceSpec (hasOwned k v && once) v s)
    (fun ks vs r => ∀ ss, r = some ss → OnceSpecList (hasOwnedZip ks vs && once) vs ss)
    (fun k vs r => ∀ ss, r = some ss → OnceSpecList (hasOwnedAll k vs && once) vs ss)
    ?owning ?lending ?staticRef ?optNone ?optSome ?resOk ?resErr ?vec ?deepNone ?deepSome ?deepOk ?deepErr
    ?deepVec ?pending ?ready ?tup ?illTyped ?zipNil ?zipCons ?zipCons' ?zipIll ?allNil ?allCons ?allCons'
  case owning => rintro v _ ⟨⟩; rw [hasOwned]; exact onceSpec_owned v once
  case lending | staticRef => rintro v _ ⟨⟩; simp only [hasOwned]; exact onceSpec_false.2 rfl
  -- where nothing owned is stored, `output` reproduces the store by computation
  case optNone | optSome | resOk | deepNone | pending => intros; rename_i h; cases h; exact onceSpec_false.2 rfl
  case resErr => rintro v _ ⟨⟩; exact onceSpec_wrap .err .err (fun _ => rfl) (onceSpec_owned v once)
  case vec =>
    rintro vs _ ⟨⟩; exact onceSpec_wrap .vec .vec (fun _ => rfl) (onceSpecList_false.2 (C17_lent_list vs))
  case deepSome => exact fun _ _ => onceSpec_map .some .some fun _ => rfl
  case deepOk => exact fun _ _ _ => onceSpec_map .ok .ok fun _ => rfl
  case deepErr => exact fun _ _ _ => onceSpec_map .err .err fun _ => rfl
  case deepVec => exact fun _ _ => onceSpec_map .vec .vec fun _ => rfl
  case ready => exact fun _ _ => onceSpec_map .ready .ready fun _ => rfl
  case tup => exact fun _ _ => onceSpec_map .tup .tup fun _ => rfl
  case illTyped => nofun
  case zipIll => intros; rename_i h; simp only [intoReturnZip, reduceCtorEq] at h
  -- for a non-empty list the principle asks twice: both parts are stored, or not both; one argument serves
  case zipNil => rintro _ ⟨⟩; exact onceSpecList_false.2 rfl
  case allNil => rintro _ _ ⟨⟩; exact onceSpecList_false.2 rfl
  case zipCons | zipCons' =>
    intro k ks v vs; intros; rename_i ihv ihvs _ h
    obtain ⟨s, ss, hs, hss, rfl⟩ := intoReturnZip_cons_eq_some h
    rw [hasOwnedZip, Bool.and_or_distrib_right]
    exact onceSpecList_cons _ _ v vs s ss (ihv s hs) (ihvs ss hss)
  case allCons | allCons' =>
    intro k v vs; intros; rename_i ihv ihvs _ h
    obtain ⟨s, ss, hs, hss, rfl⟩ := intoReturnAll_cons_eq_some h
    rw [hasOwnedAll, Bool.and_or_distrib_right]
    exact onceSpecList_cons _ _ v vs s ss (ihv s hs) (ihvs ss hss)

/-- **C17, repeatable path: every call reproduces the configured value and leaves the store intact.**
    For every kind, every value it accepts, at any nesting depth. -/
theorem C17_roundtrip : (v : Val) → ∀ (k : Kind) (s : Stored), intoReturn false k v = some s → output s = (some v, s) :=
  fun v k s h => onceSpec_false.1 (Bool.and_false _ ▸ (onceSpec_of_intoReturn false).1 k v s h)

theorem C17_roundtrip_all : (vs : ValList) → ∀ (k : Kind) (ss : StoredList),
    intoReturnAll false k vs = some ss → outputList ss = (some vs, ss) :=
  fun vs k ss h => onceSpecList_false.1 (Bool.and_false _ ▸ (onceSpec_of_intoReturn false).2.2 k vs ss h)

theorem C17_roundtrip_zip : (vs : ValList) → ∀ (ks : KindList) (ss : StoredList),
    intoReturnZip false ks vs = some ss → outputList ss = (some vs, ss) :=
  fun vs ks ss h => onceSpecList_false.1 (Bool.and_false _ ▸ (onceSpec_of_intoReturn false).2.1 ks vs ss h)

/-- **C17/C12, single-use path.** A value stored through `into_return_once` is reproduced exactly on
    the first call; the second call fails (⇒ `CannotReturnValueMoreThanOnce`) **iff** the configured
    value has an owned leaf on its populated path — `None`, `Pending`, an empty `Vec`, an `Ok(&T)` of a
    shallow result and all-borrowed shapes stay repeatable and leave the store unchanged. -/
theorem C17_once : (v : Val) → ∀ (k : Kind) (s : Stored), intoReturn true k v = some s → OnceSpec (hasOwned k v) v s :=
  fun v k s h => Bool.and_true (hasOwned k v) ▸ (onceSpec_of_intoReturn true).1 k v s h

theorem C17_once_all : (vs : ValList) → ∀ (k : Kind) (ss : StoredList),
    intoReturnAll true k vs = some ss → OnceSpecList (hasOwnedAll k vs) vs ss :=
  fun vs k ss h => Bool.and_true (hasOwnedAll k vs) ▸ (onceSpec_of_intoReturn true).2.2 k vs ss h

theorem C17_once_zip : (vs : ValList) → ∀ (ks : KindList) (ss : StoredList),
    intoReturnZip true ks vs = some ss → OnceSpecList (hasOwnedZip ks vs) vs ss :=
  fun vs ks ss h => Bool.and_true (hasOwnedZip ks vs) ▸ (onceSpec_of_intoReturn true).2.1 ks vs ss h

/-- a spent slot never refills: once an output failed, it keeps failing -/
theorem C17_spent_stays_spent : (output Stored.spent).1 = none ∧ (output Stored.spent).2 = Stored.spent :=
  ⟨rfl, rfl⟩

/-- non-vacuity: `Option<Result<&T, E>>` configured as `Some(Err(e))` through the single-use path -/
example :
    let k := Kind.deepOpt .shallowRes
    let v := Val.some (.err (.leaf 7))
    ∃ s, intoReturn true k v = some s ∧ (output s).1 = some v ∧ (output (output s).2).1 = none :=
  ⟨_, rfl, rfl, rfl⟩

end Unimock.Output

/-! ## from the return type written in the trait to the observed value

The theorems above start from an output kind. Which kind a method gets is decided by the attribute from
the *syntax* of its return type (`Model/Codegen/OutputKind.determine`, compared token for token with the
real macro on every run). The theorems below close the gap: for every return type over the grammar
(named types, references of every lifetime class, `Option`/`Result`/`Vec`/`Poll`, other generic paths,
tuples, nested to any depth), if the assigned kind is one the run-time implements then it accepts every
value of that type, and the caller observes exactly the configured value. -/
namespace Unimock.Codegen.OutKind
open Unimock.Output

/-- **C17, the kind assigned to a return type fits the type**: every value of the type can be configured. -/
theorem C17_assigned_kind_fits (ty : Ty) (k : Kind) (h : toKind (determine ty).1 (determine ty).2 = some k)
    (once : Bool) (v : Val) (hv : hasType v ty = true) : (intoReturn once k v).isSome = true := by
  -- without an elided or `self` borrow the kind is `Owning`; with one it is `mgk`'s, except for a tuple
  cases ty with
  | ref lt m e => exact fits_of_not_nested (by cases lt <;> cases m <;> rfl) h once v
  | named _ | app _ _ =>
    simp only [determine] at h
    split at h
    · exact (mgk_fits once).1 v _ k h hv
    · exact fits_of_not_nested rfl h once v
  | tuple ts =>
    simp only [determine] at h
    split at h
    · obtain ⟨ks, hks, rfl⟩ := Option.map_eq_some_iff.1 h
      cases v <;> simp only [hasType, Bool.false_eq_true] at hv
      exact Option.isSome_map.trans ((mgk_fits once).2.1 _ ts ks hks hv)
    · exact fits_of_not_nested rfl h once v

/-- **C17 end to end, repeatable path**: return type ⟶ assigned kind ⟶ stored value ⟶ every call observes
    the configured value, shape for shape, and the store is unchanged. -/
theorem C17_return_type_roundtrip (ty : Ty) (k : Kind) (h : toKind (determine ty).1 (determine ty).2 = some k)
    (v : Val) (hv : hasType v ty = true) : ∃ s, intoReturn false k v = some s ∧ output s = (some v, s) := by
  obtain ⟨s, hs⟩ := Option.isSome_iff_exists.1 (C17_assigned_kind_fits ty k h false v hv)
  exact ⟨s, hs, C17_roundtrip v k s hs⟩

/-- **C17 end to end, single-use path**: the first call observes the configured value; the second fails
    exactly when the value has an owned leaf on its populated path. -/
theorem C17_return_type_once (ty : Ty) (k : Kind) (h : toKind (determine ty).1 (determine ty).2 = some k)
    (v : Val) (hv : hasType v ty = true) : ∃ s, intoReturn true k v = some s ∧ OnceSpec (hasOwned k v) v s := by
  obtain ⟨s, hs⟩ := Option.isSome_iff_exists.1 (C17_assigned_kind_fits ty k h true v hv)
  exact ⟨s, hs, C17_once v k s hs⟩

/-- non-vacuity: `Vec<Result<&T, E>>` gets `Deep<Vec<Shallow<Result<&'static T, E>>>>`, which the run-time implements -/
example : toKind (determine (.app .vec (.cons (.app .result (.cons (.ref .elided false (.named "T")) (.cons (.named "E") .nil))) .nil))).1
    (determine (.app .vec (.cons (.app .result (.cons (.ref .elided false (.named "T")) (.cons (.named "E") .nil))) .nil))).2
    = some (.deepVec .shallowRes) := by rfl

/-- and a combination the macro accepts but the run-time has no implementation for (rejected by rustc):
    `Result<Option<&T>, E>` -/
example : toKind (determine (.app .result (.cons (.app .option (.cons (.ref .elided false (.named "T")) .nil)) (.cons (.named "E") .nil)))).1
    (determine (.app .result (.cons (.app .option (.cons (.ref .elided false (.named "T")) .nil)) (.cons (.named "E") .nil)))).2
    = none := by rfl

end Unimock.Codegen.OutKind
