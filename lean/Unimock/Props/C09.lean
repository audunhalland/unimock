import Unimock.Generated.Control
import Unimock.Lemmas.Gates
import Unimock.Model.Lifecycle
/-!
# C09 — only the original instance verifies: once, on its thread, with no clones alive

Statement (properties.jsonl): dropping a clone never verifies and never panics, whatever the
expectations; the original verifies exactly once (verify() or report() pre-empt the check at drop,
no_verify_in_drop() disables it) and that verification panics if any clone is still alive or if it
runs on a thread other than the one that created the mock. verify() and no_verify_in_drop() on a
clone panic, and report() maps the same verdict to its exit code: FAILURE exactly when verify() would
have reported unmet expectations or recorded errors.
-/
namespace Unimock
variable {α ρ : Type}

/-- **C09, a clone never verifies and never panics** — in every world, on every thread, unwinding or
    not, whatever the counters, the error log and the number of live instances are. -/
theorem C09_clone_teardown_ok (w : World α ρ) (x : Inst) (t : Nat) (p : Bool) (h : x.original = false) :
    teardownVerdict w x t p = .ok := by
  unfold teardownVerdict; simp [h]

/-- what dropping an instance returns: the verdict of its teardown, unless it is torn down already or was told not to
    verify -/
theorem dropInst_snd (w : World α ρ) (i : Nat) (x : Inst) (t : Nat) (p : Bool) (hx : w.inst? i = some x) :
    (dropInst w i t p).2 = if x.tornDown || !x.verifyInDrop then .ok else (teardownInst w i x t p).2 := by
  rw [dropInst, hx]
  dsimp only
  cases x.tornDown <;> cases x.verifyInDrop <;> rfl

theorem C09_clone_drop_ok (w : World α ρ) (i : Nat) (x : Inst) (t : Nat) (p : Bool)
    (hx : w.inst? i = some x) (h : x.original = false) :
    (dropInst w i t p).2 = .ok := by
  rw [dropInst_snd w i x t p hx]
  split
  · rfl
  · exact C09_clone_teardown_ok _ _ t p h

/-- **C09, at most one verification**: once an instance has been torn down (by `verify()`,
    `report()` or a first drop attempt), dropping it never evaluates the verdict again. -/
theorem C09_torn_down_drop_silent (w : World α ρ) (i : Nat) (x : Inst) (t : Nat) (p : Bool)
    (hx : w.inst? i = some x) (h : x.tornDown = true) :
    (dropInst w i t p).2 = .ok := by
  rw [dropInst_snd w i x t p hx, h]; rfl

/-- teardown always marks the instance as torn down and releases its helper chain -/
theorem C09_teardown_marks (w : World α ρ) (i : Nat) (x : Inst) (t : Nat) (p : Bool) :
    (teardownInst w i x t p).1 = w.setInst i { x with tornDown := true, helper := 0, parked := 0 } := rfl

/-- **C09, `no_verify_in_drop()` disables the check at drop.** -/
theorem C09_no_verify_disables (w : World α ρ) (i : Nat) (x : Inst) (t : Nat) (p : Bool)
    (hx : w.inst? i = some x) (h : x.verifyInDrop = false) :
    (dropInst w i t p).2 = .ok := by
  rw [dropInst_snd w i x t p hx, h, Bool.not_false, Bool.or_true]; rfl

/-- **C09, verification with a live clone panics** ("clones still alive"), before looking at any
    expectation. -/
theorem C09_live_clone_panics (w : World α ρ) (x : Inst) (t : Nat)
    (horig : x.original = true) (hstrong : w.strong x.sh > 1) :
    teardownVerdict w x t false = .panicClones := by
  unfold teardownVerdict; simp [horig, hstrong]

/-- **C09, verification on a foreign thread panics.** -/
theorem C09_other_thread_panics (w : World α ρ) (x : Inst) (t : Nat) (m : MockSt α ρ)
    (horig : x.original = true) (hstrong : w.strong x.sh ≤ 1) (hm : w.mocks[x.sh]? = some m)
    (ht : t ≠ m.creator) :
    teardownVerdict w x t false = .panicThread := by
  simp [teardownVerdict, horig, Nat.not_lt.2 hstrong, hm, ht]

/-- **C09, `verify()` / `no_verify_in_drop()` on a clone panic.** -/
theorem C09_verify_on_clone_panics (env : Env α ρ) (w : World α ρ) (i t : Nat) (x : Inst)
    (hx : w.inst? i = some x) (ha : x.alive = true) (h : x.original = false) :
    (step env w (.verify i t)).2 = .panicOnClone ∧ (step env w (.noVerify i t)).2 = .panicOnClone := by
  dsimp only [step]
  simp [hx, ha, h]

/-- **C09, `report()` maps the verify verdict to the exit code**: FAILURE exactly when `verify()`
    in the same world would have reported errors; the two panic cases are the same panics. -/
theorem C09_report_matches_verify (env : Env α ρ) (w : World α ρ) (i t : Nat) (x : Inst)
    (hx : w.inst? i = some x) (ha : x.alive = true) (horig : x.original = true) :
    match (step env w (.verify i t)).2 with
    | .teardown .ok => (step env w (.report i t)).2 = .exit false []
    | .teardown (.errs es) => (step env w (.report i t)).2 = .exit true es
    | o => (step env w (.report i t)).2 = o := by
  dsimp only [step]
  simp only [hx, ha, horig]
  cases (teardownInst w i x t false).2 <;> rfl

/-- **C09, the verdict is evaluated only by the original**: whenever teardown returns anything but
    `ok`, the instance is the original one. -/
theorem C09_only_original_can_fail (w : World α ρ) (x : Inst) (t : Nat) (p : Bool)
    (h : teardownVerdict w x t p ≠ .ok) : x.original = true := by
  cases ho : x.original with
  | true => rfl
  | false => exact absurd (C09_clone_teardown_ok w x t p ho) h

/-- non-vacuity: an original with one live clone panics with "clones alive"; alone it verifies -/
example :
    let w : World Nat Int := { mocks := [⟨⟨.error, [], 0, []⟩, 0⟩],
                               insts := [(0, { sh := 0, original := true }), (1, { sh := 0, original := false })] }
    teardownVerdict w { sh := 0, original := true } 0 false = .panicClones ∧
    teardownVerdict (w.free 1) { sh := 0, original := true } 0 false = .ok ∧
    teardownVerdict (w.free 1) { sh := 0, original := true } 1 false = .panicThread := by decide


/-! ### the teardown / drop / verify statement sequences as the source has them (`Generated/Control.lean`) -/

/-- the re-translated statement list of `teardown::teardown`, interpreted, equals the model's decision on every one of the
    256 observations (which flags it leaves behind included) -/
theorem C09_source_teardown_sequence :
    ∀ o : Gates.Obs, Gates.run Generated.teardownSteps o {} = Gates.specVerdict o := by
  -- by evaluation on all 256 observations: whatever list the translator writes, only what it computes is compared
  have h : ∀ a b c d e f g h : Bool, Gates.run Generated.teardownSteps ⟨a, b, c, d, e, f, g, h⟩ {} =
      Gates.specVerdict ⟨a, b, c, d, e, f, g, h⟩ := by decide +kernel
  exact fun ⟨a, b, c, d, e, f, g, k⟩ => h a b c d e f g k

/-- hence the model's `teardown` is the source's statement list run on what the instance can observe -/
theorem C09_source_teardown {α ρ} (w : World α ρ) (i : Nat) (x : Inst) (t : Nat) (p : Bool) :
    (teardownInst w i x t p).2 =
      concretise (w.setInst i { x with tornDown := true, helper := 0, parked := 0 })
        { x with tornDown := true, helper := 0, parked := 0 }
        (Gates.run Generated.teardownSteps (obsInst w i x t p) {}).1 ∧
    (teardownInst w i x t p).1 =
      w.setInst i (applyFlags x (Gates.run Generated.teardownSteps (obsInst w i x t p) {}).snd) := by
  rw [C09_source_teardown_sequence]
  exact ⟨teardownInst_eq_spec w i x t p, teardownInst_flags w i x t p⟩

/-- a clone's teardown is silent, whatever else is observed — read off the source's own statement order -/
theorem C09_source_clone_silent (o : Gates.Obs) (h : o.original = false) :
    (Gates.run Generated.teardownSteps o {}).1 = .ok := by
  rw [C09_source_teardown_sequence]; simp [Gates.specVerdict, h]

/-- the original, not unwinding, with any other holder of the shared state alive — or its own helper / parked clone, had
    they not been released first — panics; the source releases both before counting -/
theorem C09_source_live_clone_panics (o : Gates.Obs) (h : o.original = true) (hp : o.panicking = false) :
    (Gates.run Generated.teardownSteps o {}).1 = .panicClones ↔ o.others = true := by
  rw [C09_source_teardown_sequence, Gates.specVerdict, h, hp]
  cases o.others
  · cases o.otherThread <;> cases o.reasons <;> cases o.verifyErrs <;> decide
  · exact iff_of_true rfl rfl

theorem C09_source_drop : ∀ f : Gates.IFlags, Gates.runD Generated.dropSteps f = Gates.specDrop f := by
  intro ⟨a, b, c⟩; cases a <;> cases b <;> cases c <;> rfl

theorem C09_source_verify : ∀ f : Gates.IFlags, Gates.runD Generated.verifySteps f = Gates.specVerify f := by
  intro ⟨a, b, c⟩; cases a <;> cases b <;> cases c <;> rfl

theorem C09_source_no_verify : ∀ f : Gates.IFlags, Gates.runD Generated.noVerifySteps f = Gates.specNoVerify f := by
  intro ⟨a, b, c⟩; cases a <;> cases b <;> cases c <;> rfl

/-- `impl Drop`, `verify()`, `no_verify_in_drop()` of the model are the source's gate sequences -/
theorem C09_source_drop_impl {α ρ} (w : World α ρ) (i t : Nat) (p : Bool) (x : Inst) (h : w.inst? i = some x) :
    dropInst w i t p =
      match Gates.runD Generated.dropSteps (iflags x) with
      | .teardown => ((teardownInst w i x t p).1.free i, (teardownInst w i x t p).2)
      | _ => (w.free i, .ok) := by
  rw [C09_source_drop]; exact dropInst_eq_spec w i t p x h

theorem C09_source_verify_impl {α ρ} (env : Env α ρ) (w : World α ρ) (i t : Nat) (x : Inst)
    (h : w.inst? i = some x) (ha : x.alive = true) :
    Unimock.step env w (.verify i t) =
      match Gates.runD Generated.verifySteps (iflags x) with
      | .panicNotOriginal => ((dropInst w i t true).1, Outcome.panicOnClone)
      | _ => ((teardownInst w i x t false).1.free i, Outcome.teardown (teardownInst w i x t false).2) := by
  rw [C09_source_verify]; exact step_verify_eq_spec env w i t x h ha

theorem C09_source_no_verify_impl {α ρ} (env : Env α ρ) (w : World α ρ) (i t : Nat) (x : Inst)
    (h : w.inst? i = some x) (ha : x.alive = true) :
    Unimock.step env w (.noVerify i t) =
      match Gates.runD Generated.noVerifySteps (iflags x) with
      | .panicNotOriginal => ((dropInst w i t true).1, Outcome.panicOnClone)
      | _ => (w.setInst i { x with verifyInDrop := false }, Outcome.ok) := by
  rw [C09_source_no_verify]; exact step_noVerify_eq_spec env w i t x h ha

/-- the lifecycle flags a new mock and a clone start with, as the source's struct literals have them -/
theorem C09_source_initial_flags :
    Generated.newFlags = ⟨true, false, true⟩ ∧ ∀ f : Gates.IFlags, Generated.cloneFlags f = ⟨false, false, f.verifyInDrop⟩ := by
  exact ⟨rfl, fun _ => rfl⟩

theorem C09_source_clone_inst {α ρ} (env : Env α ρ) (w : World α ρ) (i j : Nat) (x : Inst)
    (h : w.inst? i = some x) (ha : x.alive = true) :
    ∃ y, (Unimock.step env w (.clone i j)).1 = w.setInst j y ∧ iflags y = Generated.cloneFlags (iflags x) ∧ y.sh = x.sh := by
  refine ⟨{ sh := x.sh, original := false, verifyInDrop := x.verifyInDrop }, ?_, ?_, rfl⟩
  · dsimp only [Unimock.step]
    simp [h, ha]
  · rw [C09_source_initial_flags.2]; rfl

/-- non-vacuity: an original with a live clone, not unwinding, on its own thread -/
example : (Gates.run Generated.teardownSteps ⟨true, false, true, true, true, false, true, true⟩ {}).1 = .panicClones ∧
    (Gates.run Generated.teardownSteps ⟨true, false, false, true, true, false, false, true⟩ {}).1 = .errsVerify := by decide

end Unimock
