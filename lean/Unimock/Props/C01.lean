import Unimock.Lemmas.Eval
import Unimock.Generated.ScanSkel
/-!
# C01 — unordered calls are answered by the first declared pattern that matches

Statement (properties.jsonl): for a method configured with unordered patterns, every call is
answered by the earliest-declared pattern of that same method whose matcher accepts the call's
arguments, no matter how often that or any later pattern has been matched before. Patterns of other
methods, and patterns that reject the arguments, never influence the answer and are never counted.

All theorems quantify over *every* shared state `s` (hence every history that could have produced
it), every method table, every pattern list and every argument.
-/
namespace Unimock
variable {α ρ : Type}

/-- The state after an unordered call selected pattern `i` (`p`): only its counter and, for a
    single-use responder, its slot are touched. -/
def selectedUpdate (s : Shared α ρ) (m : MethodInfo) (i : Nat) (p : Pattern α ρ) : Shared α ρ :=
  s.setPat m.id i { p with count := p.count + 1, responders := (respond m i p.responders p.count).1 }

/-- **C01, first declared match answers.** If pattern `i` of the called method accepts the
    arguments and every earlier-declared pattern of that method rejects them, the call is answered
    by pattern `i` — by the responder its current match count selects (see C02) — whatever the
    counters of this or any other pattern are. -/
theorem C01_first_match_answers (s : Shared α ρ) (m : MethodInfo) (a : α) (fm : FnMocker α ρ)
    (hf : s.find m.id = some fm) (hm : fm.mode = .anyOrder)
    (i : Nat) (hi : i < fm.pats.length)
    (hacc : tryPat fm.pats[i] a = some .accept)
    (hrej : ∀ j (hj : j < i), tryPat (fm.pats[j]'(by omega)) a = none) :
    evalCall s m a =
      (selectedUpdate s m i fm.pats[i], (respond m i fm.pats[i].responders fm.pats[i].count).2) := by
  have hscan : scan fm.pats a 0 = some (i, .accept) :=
    (scan_some_iff fm.pats a i .accept).mpr ⟨hi, hacc, hrej⟩
  unfold evalCall selectedUpdate
  simp only [hf, hm, hscan, List.getElem?_eq_getElem hi]

/-- **C01, nothing matches.** If every pattern of the method rejects the arguments, no state
    changes at all (no counter moves) and the outcome is decided by the fallback mode only. -/
theorem C01_no_match (s : Shared α ρ) (m : MethodInfo) (a : α) (fm : FnMocker α ρ)
    (hf : s.find m.id = some fm) (hm : fm.mode = .anyOrder)
    (hrej : ∀ p ∈ fm.pats, tryPat p a = none) :
    evalCall s m a =
      (s, match s.fallback with
          | .error => .err (.noMatchingCallPatterns m)
          | .unmock => .contUnmock) := by
  have hscan : scan fm.pats a 0 = none := (scan_none_iff fm.pats a).mpr hrej
  unfold evalCall
  simp only [hf, hm, hscan]
  cases s.fallback <;> rfl

/-- **C01, frame.** After an unordered call that selected pattern `i` of method `m`, every other
    pattern — rejecting patterns and later patterns of the same method, and all patterns of all other
    methods — is exactly as before; the ordered index and the error log are untouched by `evalCall`. -/
theorem C01_frame (s : Shared α ρ) (m : MethodInfo) (i : Nat) (p : Pattern α ρ) (id' j : Nat)
    (h : id' ≠ m.id ∨ j ≠ i) :
    (selectedUpdate s m i p).pat? id' j = s.pat? id' j ∧
    (selectedUpdate s m i p).nextOrdered = s.nextOrdered ∧
    (selectedUpdate s m i p).reasons = s.reasons ∧
    (selectedUpdate s m i p).fallback = s.fallback := by
  unfold selectedUpdate
  exact ⟨pat?_setPat_other s m.id i id' j _ h, rfl, rfl, rfl⟩

/-- **C01, the selected pattern is counted once.** -/
theorem C01_selected_counted (s : Shared α ρ) (m : MethodInfo) (i : Nat) (p : Pattern α ρ)
    (h : s.pat? m.id i = some p) :
    ∃ q, (selectedUpdate s m i p).pat? m.id i = some q ∧ q.count = p.count + 1 ∧
      q.matcher = p.matcher ∧ q.min = p.min ∧ q.ex = p.ex ∧ q.lo = p.lo ∧ q.hi = p.hi := by
  unfold selectedUpdate
  exact ⟨_, pat?_setPat_same s m.id i _ p h, rfl, rfl, rfl, rfl, rfl, rfl⟩

/-- **C01, the choice depends on the matchers only.** Two pattern lists with the same matchers
    (but arbitrary counters, slots, responders and expectations) select the same index. -/
theorem C01_choice_ignores_history (ps qs : List (Pattern α ρ)) (a : α)
    (h : ps.map (·.matcher) = qs.map (·.matcher)) : scan ps a 0 = scan qs a 0 :=
  scan_config_only ps qs a h 0

/-- **C01, other methods never influence the answer.** `evalCall` for method `m` reads nothing
    of the method table but `m`'s own entry. -/
theorem C01_other_methods_irrelevant (s s' : Shared α ρ) (m : MethodInfo) (a : α)
    (hfb : s.fallback = s'.fallback) (hf : s.find m.id = s'.find m.id)
    (hm : ∀ fm, s.find m.id = some fm → fm.mode = .anyOrder) :
    (evalCall s m a).2 = (evalCall s' m a).2 := by
  rw [evalCall_eq, evalCall_eq, apply_snd_congr s s', Shared.resolve, Shared.resolve, ← hf, ← hfb,
    resolveIn_unordered _ _ _ _ _ m a _ hm]

/-- non-vacuity: a concrete two-pattern method where the second pattern is the first to accept -/
example :
    let p0 : Pattern Nat Int := ⟨some (fun a => some (a == 1)), none, [⟨0, .ret 10 false, false⟩], 0, 0, 0, .atLeast, 5⟩
    let p1 : Pattern Nat Int := ⟨some (fun _ => some true), none, [⟨0, .ret 20 false, false⟩], 0, 0, 0, .atLeast, 7⟩
    let m : MethodInfo := ⟨0, "T", "f", false, false, false⟩
    let s : Shared Nat Int := ⟨.error, [⟨m, .anyOrder, [p0, p1]⟩], 0, []⟩
    (evalCall s m 2).2 = .ret 20 ∧ (evalCall s m 1).2 = .ret 10 := by
  decide +kernel


/-! ## source agreement: the `InAnyOrder` arm of `Eval::match_call_pattern` as read from `/repo/src/eval.rs` -/
section Source
open ScanSkel

/-- the model's `scan` result in the vocabulary of the source skeleton -/
def selOfScan : Option (Nat × Try) → Sel
  | none => .nothing
  | some (i, .accept) => .selected i
  | some (i, .noMatcher) => .patErr i
  | some (i, .userPanic) => .unwound i

theorem filterMapped_is_scan (sk : AnySkel) (hf : sk.onFalse = .none_) (ht : sk.onTrue = .someOk)
    (he : sk.onErr = .someErr) (ps : List (Pattern α ρ)) (a : α) (k : Nat) :
    takeNext (filterMapped sk (ps.map fun p => ofTry (tryPat p a)) k) = selOfScan (scan ps a k) := by
  induction ps generalizing k with
  | nil => rfl
  | cons p ps ih =>
    rw [List.map_cons, filterMapped, scan]
    rcases tryPat p a with _ | _ | _ | _
    · rw [show sk.arm (ofTry none) = .none_ from hf]; exact ih (k + 1)
    · rw [show sk.arm (ofTry (some .accept)) = .someOk from ht]; rfl
    · rw [show sk.arm (ofTry (some .noMatcher)) = .someErr from he]; rfl
    · rfl

/-- **C01, source agreement.** The iterator chain of the `InAnyOrder` arm, as translated from the
    current source (receiver, adaptor sequence, closure arms, `None` reporter, index passed to
    `map_pattern_error`) and given Rust's iterator semantics, computes exactly the model's
    first-match `scan`, for every pattern list and argument — including lists where a matcher is
    missing (`NoMatcherFunction` at that index) or panics. -/
theorem C01_source_scan_is_model_scan (ps : List (Pattern α ρ)) (a : α) :
    Generated.anySkel.run (ps.map fun p => ofTry (tryPat p a)) = selOfScan (scan ps a 0) := by
  have hc : (Generated.anySkel.overCallPatterns ∧ Generated.anySkel.errMapsOwnIndex ∧
      (Generated.anySkel.adaptors = [.iter, .enumerate, .filterMap, .next, .transpose, .mapErr] ∨
       Generated.anySkel.adaptors = [.iter, .enumerate, .forReturn])) := by decide
  unfold AnySkel.run
  rw [if_pos hc]
  exact filterMapped_is_scan _ (by decide) (by decide) (by decide) ps a 0

/-- **C01 / C07, source agreement for `CallPattern::match_inputs`.** The arms as read from the current
    source give, for a pattern with or without a matcher function and with or without a mismatch
    reporter, exactly the model's `tryPat`: the matcher's own verdict decides, a missing matcher is
    `NoMatcherFunction`, and whether diagnostics are collected changes nothing. -/
theorem C01_source_match_inputs (p : Pattern α ρ) (a : α) (withReporter : Bool) :
    miRun Generated.matchInputsArms p.matcher.isSome withReporter (p.matcher.bind (· a)) =
      some (ofTry (tryPat p a)) := by
  unfold tryPat
  cases p.matcher with
  | none => cases withReporter <;> rfl
  | some f =>
    -- the matcher's verdict is all that is left to vary: a table of two reporter settings by three verdicts
    dsimp only [Option.isSome_some, Option.bind_some]
    generalize f a = v
    cases withReporter <;> rcases v with _ | _ | _ <;> rfl

/-- how an outcome of the translated unordered selection reads in the model -/
def agreesU (m : MethodInfo) (fm : FnMocker α ρ) (s : Shared α ρ) : Sel → EvalOutcome ρ → Prop
  | .nothing, out => out = (match s.fallback with
      | .error => .err (.noMatchingCallPatterns m)
      | .unmock => .contUnmock)
  | .patErr i, out => out = .err (.noMatcherFunction m i)
  | .unwound _, out => out = .userPanic
  | .selected i, out => ∃ p, fm.pats[i]? = some p ∧ out = (respond m i p.responders p.count).2
  | .ill, _ => False

/-- **C01, the translated source is the model's unordered branch.** For every state, unordered method and
    argument: running the translated iterator chain over the translated `match_inputs` results gives the
    outcome of the model's `evalCall` — the selected pattern's response, the fallback decision when nothing
    matches, `NoMatcherFunction` at the failing index, or the user's own panic. -/
theorem C01_source_unordered_is_model (s : Shared α ρ) (m : MethodInfo) (a : α) (fm : FnMocker α ρ)
    (hf : s.find m.id = some fm) (hm : fm.mode = .anyOrder) :
    agreesU m fm s (Generated.anySkel.run (fm.pats.map fun p => ofTry (tryPat p a))) (evalCall s m a).2 := by
  rw [C01_source_scan_is_model_scan]
  unfold evalCall
  simp only [hf, hm]
  -- nothing stops the scan; pattern `i` accepts; it has no matcher; its matcher panics
  rcases hscan : scan fm.pats a 0 with _ | ⟨i, _ | _ | _⟩
  · show Prod.snd _ = _
    cases s.fallback <;> rfl
  · simp only [List.getElem?_eq_getElem (scan_lt _ _ _ _ hscan)]
    exact ⟨_, List.getElem?_eq_getElem _, rfl⟩
  · exact rfl
  · exact rfl

/-- **C01 / C02, source agreement (the match counter).** `CallCounter::fetch_add` is one `fetch_add(1, SeqCst)` and
    `next_responder` selects by the value it returns — the number of matches *before* this call — which is what the
    model's `evalCall` does: `respond … p.count`, then `count := p.count + 1`. -/
theorem C01_source_count_bump (n : Nat) :
    Generated.countBumpSkel.run n = some (n, n + 1) ∧ Generated.countBumpSkel.seqCst = true ∧
    Generated.nextResponderByOldCount = true := by
  refine ⟨rfl, rfl, rfl⟩

/-- non-vacuity: second pattern selected; a matcher-less pattern before an accepting one is an error at ITS index -/
example :
    Generated.anySkel.run [.f, .t, .t] = .selected 1 ∧ Generated.anySkel.run [.f, .e, .t] = .patErr 1 ∧
    Generated.anySkel.run [.f, .f] = .nothing := by decide +kernel
/-- non-vacuity: the translated `match_inputs` arms on concrete inputs (no matcher; matcher accepting without a reporter;
    matcher rejecting with one; matcher panicking) -/
example :
    miRun Generated.matchInputsArms false true none = some .e ∧
    miRun Generated.matchInputsArms true false (some true) = some .t ∧
    miRun Generated.matchInputsArms true true (some false) = some .f ∧
    miRun Generated.matchInputsArms true true none = some .p := by decide +kernel
end Source

end Unimock
