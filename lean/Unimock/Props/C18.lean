import Unimock.Props.C01
import Unimock.Lemmas.Eval
import Unimock.Model.Lifecycle
import Unimock.Lemmas.Layout
/-!
# C18 — behaviour depends only on clauses and call history, not on incidental layout

Statement (properties.jsonl): reordering clauses that belong to different methods (keeping each
method's own pattern order and the relative order of ordered clauses), routing any call through the
original or through any clone, or building a second independent mock from the same clauses never
changes any call's outcome or the verification verdict: distinct mocks share nothing, clones share
everything. Generic methods instantiated with different type arguments are distinct methods whose
patterns never mix.
-/
namespace Unimock
variable {α ρ : Type}

/-! instance bookkeeping never touches the shared states -/

@[simp]
theorem setInst_mocks (w : World α ρ) (i : Nat) (x : Inst) : (w.setInst i x).mocks = w.mocks := by
  unfold World.setInst; split <;> rfl

@[simp]
theorem free_mocks (w : World α ρ) (i : Nat) : (w.free i).mocks = w.mocks := by
  unfold World.free; split <;> simp

@[simp]
theorem teardownInst_mocks (w : World α ρ) (i : Nat) (x : Inst) (t : Nat) (p : Bool) :
    (teardownInst w i x t p).1.mocks = w.mocks := setInst_mocks _ _ _

@[simp]
theorem dropInst_mocks (w : World α ρ) (i t : Nat) (p : Bool) : (dropInst w i t p).1.mocks = w.mocks := by
  unfold dropInst
  split
  · rfl
  · split <;> (try split) <;> simp

/-- **C18, routing is irrelevant (clones share everything).** A call made through instance `i` and
    the same call made through any other live instance `j` of the same mock have the same outcome,
    the same user-code log and leave the same shared states behind. -/
theorem C18_routing_irrelevant (env : Env α ρ) (w : World α ρ) (i j t t' : Nat) (xi xj : Inst)
    (m : MethodInfo) (a : α)
    (hi : w.inst? i = some xi) (hj : w.inst? j = some xj)
    (hai : xi.alive = true) (haj : xj.alive = true) (hsh : xi.sh = xj.sh) :
    (step env w (.call i t m a)).2 = (step env w (.call j t' m a)).2 ∧
    (step env w (.call i t m a)).1.mocks = (step env w (.call j t' m a)).1.mocks := by
  simp only [step, hi, hj, hai, haj, hsh]
  cases w.mocks[xj.sh]? with
  | none => exact ⟨rfl, rfl⟩
  | some ms =>
    simp only
    constructor
    · rfl
    · simp only [Bool.not_true, Bool.false_eq_true, ↓reduceIte]
      rw [setInst_mocks, setInst_mocks]

theorem setShared_other (w : World α ρ) (sh k : Nat) (s : Shared α ρ) (h : k ≠ sh) :
    (w.setShared sh s).mocks[k]? = w.mocks[k]? := by
  unfold World.setShared
  simp only [List.getElem?_map, List.getElem?_zipIdx]
  cases w.mocks[k]? with
  | none => rfl
  | some m => simp [h]

/-- **C18, distinct mocks share nothing.** A call on an instance of mock `sh` leaves every other
    mock's shared state exactly as it was. -/
theorem C18_mocks_independent (env : Env α ρ) (w : World α ρ) (i t : Nat) (x : Inst)
    (m : MethodInfo) (a : α) (hi : w.inst? i = some x) (k : Nat) (hk : k ≠ x.sh) :
    (step env w (.call i t m a)).1.mocks[k]? = w.mocks[k]? := by
  simp only [step, hi]
  split
  · rfl
  · cases w.mocks[x.sh]? with
    | none => rfl
    | some ms =>
      simp only
      rw [setInst_mocks, setShared_other _ _ _ _ hk]

/-- **C18, no event other than `build` and `call` touches any shared state** (clone, drop, verify,
    report, no_verify_in_drop only change instance bookkeeping). -/
theorem C18_lifecycle_events_keep_shared (env : Env α ρ) (w : World α ρ) (i j t : Nat) (p : Bool) :
    (step env w (.clone i j)).1.mocks = w.mocks ∧
    (step env w (.drop i t p)).1.mocks = w.mocks ∧
    (step env w (.verify i t)).1.mocks = w.mocks ∧
    (step env w (.noVerify i t)).1.mocks = w.mocks ∧
    (step env w (.report i t)).1.mocks = w.mocks := by
  refine ⟨?_, ?_, ?_, ?_, ?_⟩ <;> simp only [step] <;> split <;> (try split) <;> (try split) <;> simp

/-- **C18, distinct methods (e.g. two instantiations of a generic method: different `TypeId`) never
    mix**: the answer for method `m` is a function of `m`'s own table entry only. -/
theorem C18_methods_distinct (s s' : Shared α ρ) (m : MethodInfo) (a : α)
    (hfb : s.fallback = s'.fallback) (hf : s.find m.id = s'.find m.id)
    (hm : ∀ fm, s.find m.id = some fm → fm.mode = .anyOrder) :
    (evalCall s m a).2 = (evalCall s' m a).2 :=
  C01_other_methods_irrelevant s s' m a hfb hf hm

/-! ## the runtime reaches the method table only through lookups by method id -/

/-- two shared states that agree on every lookup (the order of the table entries may differ) -/
def SharedEquiv (s s' : Shared α ρ) : Prop :=
  s.fallback = s'.fallback ∧ s.nextOrdered = s'.nextOrdered ∧ s.reasons = s'.reasons ∧ ∀ id, s.find id = s'.find id

/-- forget the "which pattern was expected instead" hint of a wrong-order error (it is computed by
    scanning the table and is the only thing `eval` derives from the table's entry order) -/
def forgetHint : EvalOutcome ρ → EvalOutcome ρ
  | .err (.callOrderNotMatched m o _) => .err (.callOrderNotMatched m o none)
  | o => o

theorem setPat_equiv (s s' : Shared α ρ) (h : SharedEquiv s s') (id i : Nat) (p : Pattern α ρ) :
    SharedEquiv (s.setPat id i p) (s'.setPat id i p) := by
  obtain ⟨h1, h2, h3, h4⟩ := h
  refine ⟨h1, h2, h3, ?_⟩
  intro id'
  rw [find_setPat, find_setPat, h4]

theorem apply_equiv (s s' : Shared α ρ) (h : SharedEquiv s s') (m : MethodInfo) (r : Resolution α ρ) :
    SharedEquiv (s.apply m r).1 (s'.apply m r).1 := by
  have hc : SharedEquiv (s.claim m) (s'.claim m) := by
    obtain ⟨h1, h2, h3, h4⟩ := h
    unfold Shared.claim
    rw [h4 m.id, h2]
    split
    · exact ⟨h1, rfl, h3, h4⟩
    · exact ⟨h1, h2, h3, h4⟩
  cases r with
  | miss o => exact hc
  | hit pi p => exact setPat_equiv _ _ hc _ _ _

/-- **C18, evaluation depends on the table only through lookups.** Equivalent states give the same
    outcome (up to the hint above) and equivalent successor states, for every call. Together with
    `C18_assemble_layout_invariant`: rearranged clause lists behave identically on every history. -/
theorem C18_eval_respects_equiv (s s' : Shared α ρ) (h : SharedEquiv s s') (m : MethodInfo) (a : α) :
    forgetHint (evalCall s m a).2 = forgetHint (evalCall s' m a).2 ∧ SharedEquiv (evalCall s m a).1 (evalCall s' m a).1 := by
  rw [evalCall_eq, evalCall_eq, Shared.resolve, Shared.resolve, ← h.1, ← h.2.1, ← h.2.2.2 m.id]
  -- the two resolutions read the same fallback, index and entry; they can differ in the hint of one error only
  rcases resolveIn_hint s.fallback s.nextOrdered (s.findOrderedExpected s.nextOrdered)
      (s'.findOrderedExpected s.nextOrdered) m a (s.find m.id) with hr | ⟨hr, hr'⟩
  · rw [hr]; exact ⟨by rw [apply_snd_congr s s'], apply_equiv s s' h m _⟩
  · rw [hr, hr']; exact ⟨rfl, apply_equiv s s' h m (.miss _)⟩

/-- run a whole history of calls through `evalCall`, collecting the outcomes -/
def evalHistory (s : Shared α ρ) : List (MethodInfo × α) → Shared α ρ × List (EvalOutcome ρ)
  | [] => (s, [])
  | (m, a) :: rest =>
    let r := evalCall s m a
    let r' := evalHistory r.1 rest
    (r'.1, r.2 :: r'.2)

/-- **C18 for every history.** Equivalent states produce the same outcome list (up to the hint) and end
    in equivalent states, whatever the sequence of calls. -/
theorem C18_history_respects_equiv (s s' : Shared α ρ) (h : SharedEquiv s s') (calls : List (MethodInfo × α)) :
    (evalHistory s calls).2.map forgetHint = (evalHistory s' calls).2.map forgetHint ∧
      SharedEquiv (evalHistory s calls).1 (evalHistory s' calls).1 := by
  induction calls generalizing s s' with
  | nil => exact ⟨rfl, h⟩
  | cons c rest ih =>
    obtain ⟨m, a⟩ := c
    have h1 := C18_eval_respects_equiv s s' h m a
    have h2 := ih _ _ h1.2
    simp only [evalHistory, List.map_cons]
    exact ⟨by rw [h1.1, h2.1], h2.2⟩

/-! ## clause layout -/

theorem AsmEquiv.trans {a b c : Asm α ρ} (h1 : AsmEquiv a b) (h2 : AsmEquiv b c) : AsmEquiv a c :=
  ⟨h1.1.trans h2.1, fun id => (h1.2 id).trans (h2.2 id)⟩

theorem ResEquiv.trans {x y z : Except AsmError (Asm α ρ)} (h1 : ResEquiv x y) (h2 : ResEquiv y z) : ResEquiv x z := by
  cases x <;> cases y <;> cases z <;> simp_all [ResEquiv]
  exact AsmEquiv.trans h1 h2

theorem assembleList_append (a : Asm α ρ) (xs ys : List (Except AsmError (Terminal α ρ))) :
    assembleList a (xs ++ ys) = match assembleList a xs with
      | .error e => .error e
      | .ok a' => assembleList a' ys := by
  induction xs generalizing a with
  | nil => rfl
  | cons x xs ih =>
    cases x with
    | error e => simp [assembleList]
    | ok t =>
      simp only [List.cons_append, assembleList]
      cases a.push t with
      | error e => rfl
      | ok a' => exact ih a'

/-- one admissible rearrangement: two neighbouring terminals of different methods, not both ordered,
    change places (every reordering "of clauses that belong to different methods, keeping each method's
    own pattern order and the relative order of ordered clauses" is a sequence of such steps) -/
inductive LayoutEq : List (Terminal α ρ) → List (Terminal α ρ) → Prop
  | refl (ts : List (Terminal α ρ)) : LayoutEq ts ts
  | swap (pre post : List (Terminal α ρ)) (t1 t2 : Terminal α ρ) (h : Swappable t1 t2) (ts : List (Terminal α ρ))
      (rest : LayoutEq (pre ++ t2 :: t1 :: post) ts) : LayoutEq (pre ++ t1 :: t2 :: post) ts

/-- **C18, assembly does not depend on clause layout.** Rearranging terminals as allowed yields
    assembler results that are both failures, or both succeed with the same running index and the same
    entry for every method id — the same mock, since every later operation reaches the table only
    through lookups by method id. -/
theorem C18_assemble_layout_invariant (ts ts' : List (Terminal α ρ)) (h : LayoutEq ts ts') (a : Asm α ρ) :
    ResEquiv (assembleList a (ts.map .ok)) (assembleList a (ts'.map .ok)) := by
  induction h with
  | refl ts => exact ResEquiv.refl _
  | swap pre post t1 t2 hs ts rest ih =>
    refine ResEquiv.trans ?_ ih
    simp only [List.map_append, List.map_cons]
    rw [assembleList_append, assembleList_append]
    cases assembleList a (pre.map .ok) with
    | error e => trivial
    | ok a0 =>
      simp only [assembleList_cons_cons]
      exact ResEquiv.assembleList _ (push_comm a0 t1 t2 hs)

end Unimock
