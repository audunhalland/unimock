import Unimock.Generated.Control
import Unimock.Lemmas.Gates
import Unimock.Model.Lifecycle
import Unimock.Generated.LockSites
import Unimock.Props.C08
/-!
# C11 — the mock never turns one panic into a process abort (std builds)

Statement (properties.jsonl): with the std feature, if a thread is already unwinding — from user code,
an answer function, a matcher, a real or default implementation, or a mock-induced panic — dropping
any Unimock on that thread (original or clone, with unmet expectations, live clones or a foreign
creator thread) does not panic again, so the process reports the original panic instead of aborting.
After a caught user panic the mock remains usable and verification reflects the calls actually matched.
-/
namespace Unimock
variable {α ρ : Type}

/-- **C11, teardown on an unwinding thread never panics** — for every world, every instance
    (original or clone), every thread, whatever the expectations, the error log, the number of live
    clones and the creator thread are. -/
theorem C11_teardown_while_unwinding (w : World α ρ) (x : Inst) (t : Nat) :
    teardownVerdict w x t true = .ok := by
  unfold teardownVerdict
  cases x.original <;> rfl

/-- **C11, `Drop` on an unwinding thread never panics.** -/
theorem C11_drop_while_unwinding (w : World α ρ) (i t : Nat) : (dropInst w i t true).2 = .ok := by
  cases hx : w.inst? i with
  | none => rw [dropInst, hx]
  | some x =>
    rw [dropInst_snd w i x t true hx]
    split
    · rfl
    · exact C11_teardown_while_unwinding _ _ _

/-- dropping a whole scope (any number of instances, any order) while unwinding never panics -/
theorem C11_scope_unwinds (w : World α ρ) (t : Nat) (is : List Nat) :
    ∀ r ∈ (dropAllUnwinding w t is).2, r = .ok := by
  induction is generalizing w with
  | nil => nofun
  | cons i is ih => exact List.forall_mem_cons.2 ⟨C11_drop_while_unwinding w i t, ih _⟩

/-- **C11, a call that panics inside a scope owning mocks unwinds cleanly**: whatever the call does
    (returns, mock-induced panic, user panic at any depth), every drop performed during the unwinding
    is `ok` — no second panic, hence no abort. -/
theorem C11_unwind_event (env : Env α ρ) (w : World α ρ) (i t : Nat) (m : MethodInfo) (a : α) (also : List Nat)
    (log : List (LogEntry α)) (out : CallOutcome ρ) (drops : List Teardown)
    (h : (step env w (.unwindCall i t m a also)).2 = .unwound log out drops) :
    ∀ r ∈ drops, r = .ok := by
  -- an event that finds no live instance or no mock for it is a `badEvent`, not `unwound`
  dsimp only [step] at h
  split at h
  · cases h
  split at h
  · cases h
  split at h
  · cases h
  · injection h with _ _ hd
    exact hd ▸ C11_scope_unwinds _ _ _

/-- **C11, by-value provided method that panics**: the moved-in original is dropped while unwinding
    and that drop is `ok`. -/
theorem C11_consume_panics_cleanly (env : Env α ρ) (w : World α ρ) (i t : Nat) (m : MethodInfo) (a : α)
    (log : List (LogEntry α)) (out : CallOutcome ρ) (d : Teardown)
    (h : (step env w (.consume i t m a)).2 = .consumed log out d) (hp : ∀ v, out ≠ .ret v) :
    d = .ok := by
  dsimp only [step] at h
  split at h
  · cases h
  split at h
  · cases h
  split at h
  · cases h
  · injection h with _ ho hd
    subst ho hd
    -- the call did not return a value, so the instance is dropped with the thread unwinding
    split
    · next v hv => exact absurd hv (hp v)
    · exact C11_drop_while_unwinding _ _ _

/-- **C11, a matcher that panics counts nothing**: the state is exactly as before the call, so the
    mock remains usable and verification reflects the calls actually matched. -/
theorem C11_matcher_panic_leaves_state (s : Shared α ρ) (m : MethodInfo) (a : α) (fm : FnMocker α ρ)
    (hf : s.find m.id = some fm) (hm : fm.mode = .anyOrder) (pi : Nat)
    (hs : scan fm.pats a 0 = some (pi, .userPanic)) :
    evalCall s m a = (s, .userPanic) := by
  unfold evalCall; simp only [hf, hm, hs]

/-- user-code panics deeper in the call (answer function, real implementation, default body) leave
    the error log untouched (C08) — verification judges the counts -/
theorem C11_user_panic_log_untouched (env : Env α ρ) (fuel lvl : Nat) (s : Shared α ρ) (m : MethodInfo) (a : α)
    (h : (callMethod env fuel lvl s m a).out = .userPanic) :
    (callMethod env fuel lvl s m a).shared.reasons = s.reasons :=
  C08_user_panic_not_recorded env fuel lvl s m a h

/-- **C11, no user code runs while a lock is held**: every closure passed to `MutexIsh::locked` in
    the crate (table regenerated from the source on every run) is one of the five known closed
    bodies (take / clone of the error log / set flag / push / read flag; classes 0-4, up to the name of the closure
    parameter) or — class 5 — another body that only reads, assigns, takes or pushes through its one parameter and calls
    nothing else (in particular no `clone`, which could be user code). -/
theorem C11_lock_bodies_closed : (Generated.lockSites.all fun c => decide (c < 6)) = true := by decide


/-! ### read off the source's own statement order (`Generated/Control.lean`) -/

/-- on an unwinding thread the statement list of `teardown::teardown` ends in `Ok(())` for every observation: original or
    clone, live clones, foreign thread, recorded errors, unmet expectations — it never reaches a `panic!` or `Err` -/
theorem C11_source_teardown_silent_when_unwinding (o : Gates.Obs) (h : o.panicking = true) :
    (Gates.run Generated.teardownSteps o {}).1 = .ok := by
  rw [C09_source_teardown_sequence]; simp [Gates.specVerdict, h]

/-- and `impl Drop` reaches `teardown` at most once per instance: never when already torn down -/
theorem C11_source_drop_after_teardown (f : Gates.IFlags) (h : f.tornDown = true) :
    Gates.runD Generated.dropSteps f = .nothing := by
  rw [C09_source_drop]; simp [Gates.specDrop, h]

/-- every statement list sets `torn_down` before anything that can fail -/
theorem C11_source_marks_torn_down (o : Gates.Obs) :
    (Gates.run Generated.teardownSteps o {}).snd.tornDown = true := by
  rw [C09_source_teardown_sequence]; rfl

end Unimock
