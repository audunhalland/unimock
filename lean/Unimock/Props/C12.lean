import Unimock.Generated.Typestate
import Unimock.Lemmas.Actions
import Unimock.Props.C02
import Unimock.Props.C17
import Unimock.Lemmas.Typestate
import Unimock.Lemmas.LeafRace
import Unimock.Lemmas.TypestateBridge
/-!
# C12 — single-use return values are moved out at most once and never duplicated

Statement (properties.jsonl): a by-value return configured without a Clone requirement is handed to
exactly one caller — also when several threads race for it — every other request panics, and the
value is dropped exactly once overall. Values configured for repeated use are cloned per call while
the stored original stays intact until the mock is torn down, and the builder refuses at compile time
to quantify a non-Clone value for more than one use.
-/
namespace Unimock
variable {α ρ : Type}

/-- results of the `takeSlot id pi ri` actions of an execution, in execution order -/
def takeResults (id pi ri : Nat) : List Action → List ActResult → List Bool
  | a :: as, r :: rs =>
    match a, r with
    | .takeSlot id' pi' ri', .took ok =>
      if id' = id ∧ pi' = pi ∧ ri' = ri then ok :: takeResults id pi ri as rs else takeResults id pi ri as rs
    | _, _ => takeResults id pi ri as rs
  | _, _ => []

theorem slotTaken_applyAction (s : Shared α ρ) (a : Action) (id pi ri : Nat) :
    (applyAction s a).1.slotTaken id pi ri = (s.slotTaken id pi ri || a == .takeSlot id pi ri) := by
  cases a with
  | bumpGlobal => simp [applyAction, slotTaken_eq, Shared.pat?, Shared.find]
  | pushReason e => simp [applyAction, slotTaken_eq, Shared.pat?, Shared.find, Shared.induce]
  | bumpPat id' pi' =>
    simp only [applyAction, slotTaken_eq, pat?_mapPat]
    split <;> cases s.pat? id pi <;> simp
  | takeSlot id' pi' ri' =>
    by_cases hsame : id' = id ∧ pi' = pi ∧ ri' = ri
    · obtain ⟨rfl, rfl, rfl⟩ := hsame
      simp only [applyAction, beq_self_eq_true, Bool.or_true]
      split
      · assumption
      · simp only [slotTaken_eq, pat?_mapPat, and_self, ↓reduceIte]
        cases s.pat? id' pi' with
        | none => rfl
        | some p => cases h : p.responders[ri']? <;> simp [h]
    · have hne : (Action.takeSlot id' pi' ri' == Action.takeSlot id pi ri) = false := by simpa using hsame
      simp only [applyAction, hne, Bool.or_false]
      split
      · rfl
      · simp only [slotTaken_eq, pat?_mapPat]
        split
        · next h =>
          cases s.pat? id pi with
          | none => rfl
          | some p =>
            have : ri' ≠ ri := fun h' => hsame ⟨h.1.symm, h.2.symm, h'⟩
            simp [List.getElem?_modify_ne _ _ this]
        · rfl
theorem takeResults_cons_ne (id pi ri : Nat) (a : Action) (as : List Action) (r : ActResult) (rs : List ActResult)
    (ha : a ≠ .takeSlot id pi ri) : takeResults id pi ri (a :: as) (r :: rs) = takeResults id pi ri as rs := by
  cases a <;> cases r <;> simp only [takeResults]
  rw [if_neg fun h => ha (by rw [h.1, h.2.1, h.2.2])]

/-- **C12, a single-use value is moved out at most once under every interleaving.** Along *any*
    execution (any threads, any schedule), the requests for one single-use slot are answered
    `true` (value handed over) exactly for the first request if the slot was full, and `false`
    (⇒ `CannotReturnValueMoreThanOnce`) for every other request; a slot that is empty stays empty. -/
theorem C12_single_use_linear (s : Shared α ρ) (as : List Action) (id pi ri : Nat) :
    takeResults id pi ri as (runActions s as).2 =
      (if s.slotTaken id pi ri then List.replicate ((as.filter (· == .takeSlot id pi ri)).length) false
       else match (as.filter (· == .takeSlot id pi ri)).length with
            | 0 => []
            | n+1 => true :: List.replicate n false) ∧
    ((runActions s as).1.slotTaken id pi ri = (s.slotTaken id pi ri || as.contains (.takeSlot id pi ri))) := by
  induction as generalizing s with
  | nil => simp [runActions, takeResults]
  | cons a as ih =>
    obtain ⟨ih1, ih2⟩ := ih (applyAction s a).1
    rw [slotTaken_applyAction] at ih1 ih2
    simp only [runActions]
    by_cases ha : a = .takeSlot id pi ri
    · subst ha
      -- the first request empties the slot; it is answered by whether the slot was full
      simp only [beq_self_eq_true, Bool.or_true, ↓reduceIte] at ih1 ih2
      have hr : (applyAction s (.takeSlot id pi ri)).2 = .took (!s.slotTaken id pi ri) := by
        simp only [applyAction]; split <;> simp_all
      simp only [hr, takeResults, and_self, ↓reduceIte, ih1, ih2, List.filter_cons, beq_self_eq_true, List.length_cons,
        List.contains_cons, Bool.true_or, Bool.or_true, and_true]
      cases s.slotTaken id pi ri <;> simp [List.replicate_succ]
    · have hne : (a == Action.takeSlot id pi ri) = false := by simpa using ha
      have hne' : (Action.takeSlot id pi ri == a) = false := by simpa using Ne.symm ha
      rw [hne, Bool.or_false] at ih1 ih2
      simp only [takeResults_cons_ne id pi ri a as _ _ ha, ih1, ih2, List.filter_cons, hne, List.contains_cons, hne',
        Bool.false_or, Bool.false_eq_true, ↓reduceIte, and_self]
/-- **C12, delivered + still stored = 1**: the number of successful takes along any execution from a
    full slot is at most one, and exactly one iff the slot ends up empty. -/
theorem C12_at_most_one_delivery (s : Shared α ρ) (as : List Action) (id pi ri : Nat)
    (hfull : s.slotTaken id pi ri = false) :
    ((takeResults id pi ri as (runActions s as).2).filter fun b => b).length ≤ 1 ∧
    (((takeResults id pi ri as (runActions s as).2).filter fun b => b).length = 1 ↔
      (runActions s as).1.slotTaken id pi ri = true) := by
  have h := C12_single_use_linear s as id pi ri
  -- the slot was requested iff the number of requests is positive
  have hc : as.contains (.takeSlot id pi ri) = decide (0 < (as.filter (· == .takeSlot id pi ri)).length) := by
    simp only [← List.count_eq_length_filter, List.count_pos_iff, List.contains_eq_mem]
  rw [h.1, h.2, hfull, hc]
  cases (as.filter (· == .takeSlot id pi ri)).length with
  | zero => simp
  | succ n => simp [List.filter_cons, List.filter_replicate]

/-- **C12, repeatable responses stay intact**: a responder stored through the Clone-demanding path is
    never modified by answering (re-export of the sequential step lemma of C02). -/
theorem C12_multi_use_intact (m : MethodInfo) (pi : Nat) (rs : List (Responder ρ)) (c ri : Nat) (v : ρ) (st : Nat) (t : Bool)
    (hf : findResponderIdx rs c = some ri) (hr : rs[ri]? = some ⟨st, .ret v false, t⟩) :
    respond m pi rs c = (rs, .ret v) := by
  unfold respond; simp [hf, hr]

/-- **C12, which builder chains produce a single-use slot** (type-state, value level): only
    `some_call/next_call(..).returns(v)` followed by `once()` or nothing; every quantifier that
    allows more than one use (`n_times`, `at_least_times`) stores a repeatable responder — in the
    real builder these are exactly the methods that demand `T: IntoReturn` (i.e. `Clone`). -/
theorem C12_typestate_value_level (s : Segment ρ) (v : ρ) (o : Bool) (h : s.resp = .ret v o) :
    (s.stored = .ret v true ↔ (s.viaQRV = true ∧ (s.quant = .once ∨ s.quant = .unquantified))) ∧
    (s.stored = .ret v true → Segment.advance true .anyOrder s ≤ 1) := by
  refine ⟨C02_single_use_iff s v o h, ?_⟩
  intro hs
  have := (C02_single_use_iff s v o h).mp hs
  unfold Segment.advance
  rcases this.2 with hq | hq <;> rw [hq] <;> simp <;> split <;> omega

/-- **C12, owned leaves inside composites** (`Option` / `Result` / tuples / `Vec` / `Poll`, nested):
    a value stored through the single-use path is handed out in full exactly once; the second request
    fails iff some owned leaf sits on the populated path of the configured value (re-export of
    `Output.C17_once`). -/
theorem C12_composite_single_use (v : Output.Val) (k : Output.Kind) (s : Output.Stored)
    (h : Output.intoReturn true k v = some s) : Output.OnceSpec (Output.hasOwned k v) v s :=
  Output.C17_once v k s h

/-! ## the compile-time half: which builder chains type-check (Model/Typestate) -/

open Typestate in
theorem run_nonclone (s s' : St) (cs : List Call) (h : Typestate.run s cs = some s') (i : Nat)
    (hi : cs[i]? = some (.returns false)) :
    i = 0 ∧ (∃ o, s = .defineResponse o) ∧ (cs[1]? = none ∨ cs[1]? = some .once) := by
  obtain ⟨si, si', h1, h2, h3⟩ := run_at h hi
  obtain ⟨o, rfl, rfl⟩ := step_returns_nonclone si si' h2
  cases i with
  | succ j =>
    -- `DefineResponse` is no call's result: it can only be where the chain starts
    have hj : j < cs.length := Nat.lt_of_succ_lt (List.getElem?_eq_some_iff.1 hi).1
    obtain ⟨sj, sj', _, g2, g3⟩ := run_at h (List.getElem?_eq_getElem hj)
    rw [g3] at h1
    cases h1
    exact absurd g2 (step_not_defineResponse sj _ o)
  | zero =>
    cases h1
    refine ⟨rfl, ⟨o, rfl⟩, ?_⟩
    cases hd : cs[1]? with
    | none => exact .inl rfl
    | some d =>
      obtain ⟨s1, s1', g1, g2, _⟩ := run_at h hd
      rw [h3] at g1
      cases g1
      exact .inr (by rw [step_from_quantifyRV_nonclone o d s1' g2])

open Typestate in
/-- **C12, the builder refuses to quantify a non-Clone value for more than one use.** In every chain
    of builder calls that type-checks, a `returns(v)` with a non-`Clone` `v` can only be the first call
    after `some_call` / `next_call` (never after `each_call`, inside a `stub` or after `then()`), and it
    is followed by nothing (implicit once) or by `.once()` — never by `n_times` / `at_least_times`. -/
theorem C12_nonclone_quantified_once_only (e : Entry) (cs : List Call) (h : accepts e cs = true) (i : Nat)
    (hi : cs[i]? = some (.returns false)) :
    i = 0 ∧ (e = .someCall ∨ e = .nextCall) ∧ (cs[1]? = none ∨ cs[1]? = some .once) := by
  unfold accepts at h
  cases hr : Typestate.run e.start cs with
  | none => simp [hr] at h
  | some s' =>
    obtain ⟨h0, ⟨o, ho⟩, h1⟩ := run_nonclone e.start s' cs hr i hi
    refine ⟨h0, ?_, h1⟩
    cases e <;> simp [Entry.start] at ho ⊢

open Typestate in
/-- non-vacuity and the boundary cases, decided on the model (the same chains are compiled against the
    real crate by the check) -/
example : accepts .someCall [.returns false] = true ∧ accepts .nextCall [.returns false, .once] = true ∧
    accepts .someCall [.returns false, .nTimes] = false ∧ accepts .someCall [.returns false, .atLeastTimes] = false ∧
    accepts .eachCall [.returns false] = false ∧ accepts .someCall [.returns false, .once, .then_, .returns false] = false ∧
    accepts .someCall [.returns true, .nTimes, .then_, .returns true, .atLeastTimes] = true := by decide

/-! ## several threads racing for one composite single-use value (Model/LeafRace)

A `Deep<…>` value configured through the single-use path keeps every owned leaf in its own locked slot
and asks them left to right, stopping at the first empty one. For any number of leaves, any number of
requesting threads and **any interleaving of their leaf accesses**: -/

open LeafRace in
/-- **C12, at most one caller receives a composite single-use value**, under every schedule. -/
theorem C12_composite_race_at_most_one (n k : Nat) (hn : 0 < n) (sch : List Nat) (i j : Nat) (ri rj : Req)
    (hi : (LeafRace.run (LeafRace.init n k) sch).reqs[i]? = some ri) (hj : (LeafRace.run (LeafRace.init n k) sch).reqs[j]? = some rj)
    (hri : ri.received n = true) (hrj : rj.received n = true) : i = j := by
  obtain ⟨_, w, h⟩ := (Inv.init n k).run sch
  exact (h.eq_winner_of_received hn hi hri).trans (h.eq_winner_of_received hn hj hrj).symm

open LeafRace in
/-- **C12, the value is not lost in the race**: once every requester has finished, exactly one of them
    holds the whole value, and every other one failed at the very first leaf without having taken
    anything — no leaf is taken (and dropped) by a caller that does not receive the value. -/
theorem C12_composite_race_no_loss (n k : Nat) (hn : 0 < n) (hk : 0 < k) (sch : List Nat)
    (hall : ∀ r : Req, r ∈ (LeafRace.run (LeafRace.init n k) sch).reqs → r.done n = true) :
    ∃ (w : Nat) (rw_ : Req), (LeafRace.run (LeafRace.init n k) sch).reqs[w]? = some rw_ ∧ rw_.received n = true ∧
      ∀ (i : Nat) (r : Req), i ≠ w → (LeafRace.run (LeafRace.init n k) sch).reqs[i]? = some r → r.failed = true ∧ r.pos = 0 := by
  obtain ⟨_, w, h⟩ := (Inv.init n k).run sch
  have hlen := (reqs_length_run (init n k) sch).trans List.length_replicate
  have hw := List.getElem?_eq_getElem (h.valid (Nat.lt_of_lt_of_eq hk hlen.symm))
  exact ⟨w, _, hw, h.received_of_done hw (hall _ (List.mem_of_getElem? hw)),
    fun i r hi hr => h.failed_of_done hn hi hr (hall r (List.mem_of_getElem? hr))⟩

open LeafRace in
/-- non-vacuity: three leaves, two requesters, a schedule with two context switches -/
example : (LeafRace.run (init 3 2) [0, 1, 0, 0]).reqs = [⟨3, false⟩, ⟨0, true⟩] := by decide

open Typestate in
/-- **C12, what the compile-time refusal buys at run time.** In every chain that type-checks, a `returns(v)` of a
    non-`Clone` value, read as a segment of the value-level builder model, is stored through the single-use path
    (`into_return_once`): the stored responder is `ret v` with the single-use flag set, and the segment advances the
    response index by at most one. -/
theorem C12_nonclone_segment_is_single_use {ρ : Type} (v : ρ) (e : Entry) (cs : List Call) (h : accepts e cs = true)
    (hnc : cs[0]? = some (.returns false)) (fuel : Nat) (segs : List (Segment ρ))
    (hs : toSegs v fuel (e == .someCall || e == .nextCall) cs = some segs) :
    ∃ s rest, segs = s :: rest ∧ s.stored = .ret v true := by
  obtain ⟨_, he, hnext⟩ := C12_nonclone_quantified_once_only e cs h 0 hnc
  have hq : (e == .someCall || e == .nextCall) = true := by rcases he with rfl | rfl <;> rfl
  rw [hq] at hs
  -- the first segment is `returns(v)` read on `DefineResponse`, quantified `once` or not at all
  obtain ⟨_, r, rest, resp, isRet, _, rfl, hr, ⟨_, rfl⟩ | ⟨q, qu, hqu, hrest⟩⟩ := toSegs_eq_some hs
  all_goals
    cases Option.some.inj hnc
    cases Option.some.inj hr
  · exact ⟨_, [], rfl, rfl⟩
  · have hqo : q = .once := by
      rcases hrest with ⟨rfl, _⟩ | ⟨_, _, rfl, _, _⟩ <;> simpa using hnext
    subst hqo
    cases Option.some.inj hqu
    rcases hrest with ⟨_, rfl⟩ | ⟨_, t, _, _, rfl⟩ <;> exact ⟨_, _, rfl, rfl⟩

/-! ### the compile-time refusal as the source's signatures have it (`Generated/Typestate.lean`, re-translated on every run) -/
section SourceTypestate
open Typestate

/-- `QuantifyReturnValue::n_times`, `::at_least_times` and `DefineMultipleResponses::returns` carry the bound
    `T: IntoReturn<..>` (the value must be `Clone`); `DefineResponse::returns` and `QuantifyReturnValue::once` do not -/
theorem C12_source_clone_bounds :
    (Generated.sigTable.lookup (2, 3)).map (·.needClone) = some true ∧
    (Generated.sigTable.lookup (2, 4)).map (·.needClone) = some true ∧
    (Generated.sigTable.lookup (1, 0)).map (·.needClone) = some true ∧
    (Generated.sigTable.lookup (2, 2)).map (·.needClone) = some false ∧
    (Generated.sigTable.lookup (0, 0)).map (·.needClone) = some false := by decide

/-- hence, by the signatures alone: a non-`Clone` value cannot be given a count other than `once`, nor be the response of an
    `each_call` / `stub` / `then` continuation — for either ordering -/
theorem C12_source_nonclone_refused (o : Typestate.Ord) :
    stepOf Generated.sigTable Generated.ordKind Generated.repKind (.quantifyRV o false) .nTimes = none ∧
    stepOf Generated.sigTable Generated.ordKind Generated.repKind (.quantifyRV o false) .atLeastTimes = none ∧
    stepOf Generated.sigTable Generated.ordKind Generated.repKind (.defineMulti o) (.returns false) = none ∧
    stepOf Generated.sigTable Generated.ordKind Generated.repKind (.quantifyRV o false) .once = some (.quantified o .exact) := by
  cases o <;> decide

end SourceTypestate

end Unimock
