import Unimock.Generated.Control
import Unimock.Model.ValueChain
/-!
# C13 — references lent by the mock stay valid, distinct and unmodified while borrowed

Statement (properties.jsonl): every reference obtained from the mock — a borrowed return configured
with returns(), or make_ref/make_mut used by an answer — keeps pointing at its own value with its
original contents for as long as the borrow of that instance lasts, however many further values are
lent, including concurrently through a shared &Unimock. Lent values are dropped exactly once and never
before the instance owning them is verified or dropped; only make_mut (which needs exclusive access)
releases earlier ones.
-/
namespace Unimock

/-- **C13, a new reference points at its own value.** -/
theorem C13_push_returns_own (c : Chain) (v : Val) :
    (c.push v).1.read (c.push v).2 = some v :=
  List.getElem?_concat_length

theorem read_append {c : Chain} {i : Nat} {x : Val} (h : c[i]? = some x) (ext : Chain) : (c ++ ext)[i]? = some x :=
  (List.getElem?_append_left (List.getElem?_eq_some_iff.1 h).1).trans h

/-- **C13, earlier references stay valid, distinct and unmodified**, however many values are lent
    afterwards: every index that read `x` before still reads `x`, and the new reference is a new index. -/
theorem C13_push_preserves (c : Chain) (v : Val) (i : Nat) (x : Val) (h : c.read i = some x) :
    (c.push v).1.read i = some x ∧ (c.push v).2 ≠ i := by
  exact ⟨read_append h [v], Nat.ne_of_gt (List.getElem?_eq_some_iff.1 h).1⟩

/-- many pushes: by induction, a retained reference survives any number of further pushes -/
theorem C13_pushes_preserve (c : Chain) (vs : List Val) (i : Nat) (x : Val) (h : c.read i = some x) :
    (vs.foldl (fun c v => (c.push v).1) c).read i = some x := by
  induction vs generalizing c with
  | nil => exact h
  | cons v vs ih => exact ih _ (C13_push_preserves c v i x h).1

/-- **C13, nothing is dropped by lending**: `push` drops nothing; only `push_mut` (exclusive access)
    releases the earlier values — each exactly once — and the final `Drop` releases what is left,
    each exactly once. -/
theorem C13_drops_exactly_once (c : Chain) (v : Val) :
    (c.pushMut v).2.2 = c ∧ (c.pushMut v).1 = [v] ∧ (c.pushMut v).1.read (c.pushMut v).2.1 = some v ∧
    c.dropAll = c ∧ (c.push v).1.dropAll = c.dropAll ++ [v] := by
  exact ⟨rfl, rfl, rfl, rfl, rfl⟩

/-! ## racing pushes through a shared `&Unimock` -/

/-- invariant of the `try_insert` race -/
def RaceInv (base : Nat) (s : RaceState) : Prop :=
  (∀ p ∈ s.pushers, p.pos ≤ s.chain.length) ∧
  (∀ p ∈ s.pushers, ∀ i, p.done = some i → s.chain[i]? = some p.v ∧ base ≤ i) ∧
  -- the nodes appended so far are exactly the values of the finished pushers, one node each
  (s.chain.length = base + (s.pushers.filter (·.done.isSome)).length)

theorem pushAttempt_chain_prefix (c : Chain) (p : Pusher) :
    ∃ ext, (pushAttempt c p).1 = c ++ ext := by
  unfold pushAttempt
  cases p.done with
  | some _ => exact ⟨[], (List.append_nil c).symm⟩
  | none =>
    dsimp only
    split
    · exact ⟨[p.v], rfl⟩
    · exact ⟨[], (List.append_nil c).symm⟩

/-- **C13, racing pushes never disturb earlier nodes**: whatever the interleaving of `try_insert`
    attempts, every node that existed keeps its index and value (the chain only grows at the end). -/
theorem C13_race_preserves_prefix (s : RaceState) (ks : List Nat) :
    ∃ ext, (raceRun s ks).chain = s.chain ++ ext := by
  induction ks generalizing s with
  | nil => exact ⟨[], (List.append_nil _).symm⟩
  | cons k ks ih =>
    obtain ⟨ext2, h2⟩ := ih (raceStep s k)
    obtain ⟨ext1, h1⟩ : ∃ ext1, (raceStep s k).chain = s.chain ++ ext1 := by
      unfold raceStep
      cases s.pushers[k]? with
      | none => exact ⟨[], (List.append_nil _).symm⟩
      | some p => exact pushAttempt_chain_prefix s.chain p
    exact ⟨ext1 ++ ext2, by rw [raceRun, h2, h1, List.append_assoc]⟩

theorem race_read_stable (s : RaceState) (ks : List Nat) (i : Nat) (x : Val) (h : s.chain[i]? = some x) :
    (raceRun s ks).chain[i]? = some x := by
  obtain ⟨ext, he⟩ := C13_race_preserves_prefix s ks
  rw [he]
  exact read_append h ext

/-- **C13, each racing pusher ends on its own node**: when a pusher's `try_insert` succeeds, the
    reference it returns points at a node holding *its* value, and it keeps doing so under every
    continuation of the race. Two pushers never share a node (their indices differ) because each
    success appends a fresh node. -/
theorem C13_race_own_node (s : RaceState) (k : Nat) (p : Pusher) (hp : s.pushers[k]? = some p)
    (hnd : p.done = none) (hpos : p.pos = s.chain.length) (ks : List Nat) :
    let s1 := raceStep s k
    (s1.pushers[k]?.bind (·.done)) = some s.chain.length ∧
    (raceRun s1 ks).chain[s.chain.length]? = some p.v := by
  have hk : k < s.pushers.length := (List.getElem?_eq_some_iff.mp hp).1
  have hstep : raceStep s k = { chain := s.chain ++ [p.v], pushers := s.pushers.set k { p with done := some p.pos } } := by
    simp only [raceStep, pushAttempt, hp, hnd, hpos, ↓reduceIte]
  rw [hstep]
  exact ⟨by rw [List.getElem?_set_self hk, hpos]; rfl, race_read_stable _ ks _ _ List.getElem?_concat_length⟩

/-- a pusher that finds its cell occupied moves on to the next cell and never modifies the chain -/
theorem C13_race_failed_attempt (c : Chain) (p : Pusher) (hnd : p.done = none) (hocc : p.pos ≠ c.length) :
    pushAttempt c p = (c, { p with pos := p.pos + 1 }) := by
  unfold pushAttempt; simp [hnd, hocc]

/-- non-vacuity: two pushers racing from an empty chain under the schedule [0,1,1] -/
example :
    let s : RaceState := { chain := [], pushers := [{ v := ⟨1, 0⟩ }, { v := ⟨2, 0⟩ }] }
    (raceRun s [0, 1, 1]).chain = [⟨1, 0⟩, ⟨2, 0⟩] ∧
    (raceRun s [0, 1, 1]).pushers.map (·.done) = [some 0, some 1] := by decide +kernel


/-- values lent during default-method delegation live in the helper's value chain; the helper cell is only ever filled
    through `get_or_init` (`AsRef` and `AsMut` alike, re-translated from `src/lib.rs` on every run), so a later delegation —
    also one through `&mut self` — keeps the existing helper and with it everything it has lent -/
theorem C13_source_helper_cell_reused :
    Unimock.Generated.delegatorCellRef = .getOrInitClone ∧ Unimock.Generated.delegatorCellMut = .getOrInitClone := ⟨rfl, rfl⟩

end Unimock
