import Unimock.Generated.Control
import Unimock.Lemmas.Gates
import Unimock.Model.Codegen.Method
import Unimock.Props.C07
/-!
# C16 — unmocking calls the registered real function with the mock as its dependency

Statement (properties.jsonl): when a call resolves to the real implementation, the function named in
unmock_with is invoked exactly once with the mock as first argument (or with the explicitly listed
parameter expressions) and the caller's arguments in order, and its result — awaited for async
methods — is returned unchanged; calls it makes back into mocked traits are evaluated by the same
mock. If no function was registered the call panics naming the method.
-/
namespace Unimock.Codegen

/-- **C16, the Unmock arm (receivers `&self`, `self`, `Rc<Self>`, `Arc<Self>`).** With `unmock_with=[f]`
    the arm calls `f(self, p0, …, pn)`; with `unmock_with=[f(e1, …, ek)]` it calls `f(e1, …, ek)`
    verbatim; the call is awaited iff the method is async (or returns `impl Future`); its value is the
    value of the arm. -/
theorem C16_unmock_arm_spec (s : MethodShape) :
    (genMethod s).unmock =
      match s.unmock with
      | .none => none
      | .path p => some (p, unmockSelf s.recv :: s.params.map (·.name), s.isAsync || s.rpit)
      | .listed p args => some (p, args.map (fun a => if a = "self" then unmockSelf s.recv else a), s.isAsync || s.rpit) :=
  rfl

/-- the receiver expression is the mock itself: `self` where the method body still owns it, the surrogate the body moved it
    into for `&mut self`, that surrogate re-pinned for `Pin<&mut Self>` -/
theorem C16_unmock_receiver (r : Recv) :
    unmockSelf r = (match r with | .mutRef => "__self" | .pinMut => "::core::pin::Pin::new(__self)" | _ => "self") := rfl

/-- without a registered function there is no Unmock arm -/
theorem C16_no_function_no_arm (s : MethodShape) (h : s.unmock = .none) : (genMethod s).unmock = none := by
  rw [C16_unmock_arm_spec, h]

/-- **C16 for `&mut self` and `Pin<&mut Self>` receivers** (after fix: commit "fix: generate the Unmock arm for `&mut self` and
    `Pin<&mut Self>` receivers"; formerly the known finding KF-C16-mut-receiver-unmock): a registered function gets its arm like
    for every other receiver -/
theorem C16_unmock_arm_present_for_mut (s : MethodShape) (h : isPolonius s.recv = true) (p : String) (hu : s.unmock = .path p) :
    (genMethod s).unmock = some (p, unmockSelf s.recv :: s.params.map (·.name), s.isAsync || s.rpit) := by
  rw [C16_unmock_arm_spec, hu]

end Unimock.Codegen

namespace Unimock
variable {α ρ : Type}

/-- **C16, runtime side.** When evaluation yields the Unmock continuation, the generated body runs
    the registered real function exactly once (one `runProg` of `env.real`), on the *same* shared
    state, and its outcome is the outcome of the call; if the body has no Unmock arm the call panics
    with `CannotUnmock` naming the method, and the error is logged. -/
theorem C16_runtime_unmock (env : Env α ρ) (fuel lvl : Nat) (s s' : Shared α ρ) (m : MethodInfo) (a : α)
    (h : call s m a = (s', .contUnmock)) :
    callMethod env (fuel + 1) lvl s m a =
      (if m.unmockFn then runProg env fuel lvl s' (env.real m a)
       else ⟨s'.induce (.cannotUnmock m), [], .mockPanic (.cannotUnmock m), 0, 0⟩) := by
  rw [C07_continuations, h]


/-! ### the responder dispatch of `eval::eval` as the source has it (`Generated/Control.lean`) -/

/-- each `DynResponder` variant leads where the model says: `Unmock` to the real implementation, `ApplyDefaultImpl` to the
    default body, `Answer` to the answer function, `Panic` to the explicit-panic error, `Return` to a value or the single-use error -/
theorem C16_source_dispatch : ∀ v : Gates.RVariant, Generated.dispatch v = Gates.specDispatch v := by
  intro v; cases v <;> rfl

theorem C16_source_eval_result_dispatch :
    Generated.dispatchEvalUnmock = .contUnmock ∧ Generated.dispatchEvalCallDefault = .contDefault := ⟨rfl, rfl⟩

/-- hence the model's `respond` yields an outcome of the class the source dispatches the selected responder to -/
theorem C16_source_respond {ρ} (m : MethodInfo) (pi : Nat) (rs : List (Responder ρ)) (ci ri : Nat) (r : Responder ρ)
    (hf : findResponderIdx rs ci = some ri) (hr : rs[ri]? = some r) :
    fitsDisp (Generated.dispatch (variantOf r.resp)) (respond m pi rs ci).2 := by
  rw [C16_source_dispatch]; exact respond_fits_spec m pi rs ci ri r hf hr

end Unimock
