import Unimock.Model.Script
import Unimock.Lemmas.BinSearch
import Unimock.Lemmas.Method
import Unimock.Generated.Mirrors
import Unimock.Props.C19
/-!
# C20 — bundled std/core/tokio/futures/embedded-hal mocks act like hand-written impls

Statement (properties.jsonl): for each trait mirrored under unimock::mock, every required method is
served by its own mock entry point and every provided method that is not mocked runs the upstream
default body over the mocked required methods. Hence driving a Unimock whose required methods replay a
script through upstream provided methods gives the same results and the same sequence of
required-method calls as a plain struct implementing the trait with that script.
-/
namespace Unimock

/-- **C20, the mirror declarations agree with the upstream traits** (tables regenerated on every run
    from `/repo/src/mock/*.rs` and from the upstream sources on disk): every mirrored method exists
    upstream with the same required/provided status, and every stable upstream *required* method is
    mirrored as required — so required methods get a mock entry point and provided ones fall back to
    the upstream default body. The quantifier is the finite table: `decide` is a proof. -/
theorem C20_mirror_tables_agree :
    (Generated.mirrors.all fun row =>
      (row.1.all fun mth => row.2.contains mth) &&
      (row.2.all fun mth => mth.2 || row.1.contains mth)) = true := by decide +kernel

/-- **C20 / C19, mirrored traits keep their upstream names**: the trait name each mirror block declares — the one every
    diagnostic about its methods prints as `Trait::method` — is the last segment of the path it mirrors (table regenerated
    on every run). -/
theorem C20_mirror_names_agree : (Generated.mirrorNamePairs.all fun p => p.1 == p.2) = true :=
  Codegen.C19_mirrored_traits_keep_their_names

variable {α ρ : Type}

theorem scriptResponders_length (script : List ρ) : (scriptResponders script).length = script.length := by
  simp [scriptResponders]

theorem scriptResponders_get (script : List ρ) (i : Nat) (h : i < script.length) :
    (scriptResponders script)[i]? = some ⟨i, .ret script[i] false, false⟩ := by
  simp [scriptResponders, h]

theorem scriptKeys_get (script : List ρ) (i : Nat) (h : i < (scriptResponders script).length) :
    (scriptResponders script)[i].start = i := by
  simp [scriptResponders]

/-- the k-th request of a scripted pattern finds responder k -/
theorem script_find (script : List ρ) (i : Nat) (h : i < script.length) :
    findResponderIdx (scriptResponders script) i = some i :=
  findResponderIdx_eq_some _ i i (scriptResponders_length script ▸ h) fun j hj => by
    rw [scriptKeys_get script j hj]

/-- **C20, one call of the scripted required method**: answered with `script[i]`, the state moves
    from position `i` to `i+1`, nothing else changes. (`m'` is the `MockFnInfo` presented by the
    call site; it denotes the same method: same id.) -/
theorem script_call (fb : Fallback) (m m' : MethodInfo) (hid : m'.id = m.id) (script : List ρ) (i : Nat) (a : α)
    (h : i < script.length) :
    call (scriptMock fb m script i) m' a = (scriptMock fb m script (i + 1), .ret script[i]) := by
  -- evaluation on the one-entry, one-pattern table; what it needs to know of the responders is `script_find` and
  -- `scriptResponders_get`
  simp [call, evalCall, scriptMock, Shared.find, hid, scan, tryPat, scriptPattern, respond, script_find script i h,
    scriptResponders_get script i h, Shared.setPat]

/-- **C20, provided methods over a scripted mock behave like over a plain struct.** For every user
    program over the required method (an upstream default body such as `write_all`, `read_exact`,
    `delay_ms`: an arbitrary interaction tree), every script and every starting position: if the plain
    script-replaying implementation completes with result `r` at position `i'`, then running the same
    program against the mock yields the same result and leaves the mock exactly at position `i'` —
    the same number of required-method requests were made and each got the same answer. -/
theorem C20_provided_over_mock_eq_struct (env : Env α ρ) (fb : Fallback) (m : MethodInfo) (script : List ρ) (lvl : Nat) :
    ∀ (fuel i : Nat) (p : Prog α ρ) (r : Option ρ) (i' : Nat),
      runPlain m script fuel i p = some (r, i') →
      (runProg env (fuel + 1) lvl (scriptMock fb m script i) p).shared = scriptMock fb m script i' ∧
      (runProg env (fuel + 1) lvl (scriptMock fb m script i) p).out =
        (match r with | some v => .ret v | none => .userPanic) := by
  intro fuel i p
  -- along the run of the plain implementation; where it gives up (`none`) nothing is claimed
  fun_induction runPlain m script fuel i p with
  | case1 fuel i r0 => intro r i' h; cases h; rw [runProg_done]; exact ⟨rfl, rfl⟩
  | case3 f i m' a k hid v hv ih =>
    -- the mock answers the call of the required method with `script[i]` and moves on to position `i + 1`
    obtain ⟨hi, rfl⟩ := List.getElem?_eq_some_iff.1 hv
    rw [runProg_call, callMethod, script_call fb m m' hid script i a hi]
    exact ih
  | case6 f i e k ih => rw [runProg_log]; exact ih
  | case7 f i k ih => rw [runProg_park]; exact ih
  | _ => nofun

end Unimock
