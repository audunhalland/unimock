import Unimock.Generated.Control
import Unimock.Lemmas.Gates
import Unimock.Props.C01
import Unimock.Props.C04
import Unimock.Model.Method
import Unimock.Lemmas.Eval
/-!
# C07 — calls without an applicable pattern fail loudly or fall through as documented

Statement (properties.jsonl): a call to a method no clause mentions runs the trait's default body if
it has one, otherwise the registered real implementation in a partial mock (or for
partial-by-default methods), otherwise panics naming the call; a call to an unordered method whose
patterns all reject the arguments panics in a strict mock and goes to the real implementation in a
partial mock. The mock never fabricates a return value, and such calls never change any pattern's
match count.
-/
namespace Unimock
variable {α ρ : Type}

/-- the documented resolution of a call to a method that no clause mentions -/
def unmentionedResolution (fb : Fallback) (m : MethodInfo) : EvalOutcome ρ :=
  if m.hasDefaultImpl then .contDefault
  else if m.partialByDefault then .contUnmock
  else match fb with
    | .error => .err (.noMockImplementation m)
    | .unmock => .contUnmock

/-- **C07, unmentioned method.** Default body first, then the real implementation (partial mock or
    partial-by-default method), else `NoMockImplementation` naming the call; the state is untouched. -/
theorem C07_unmentioned (s : Shared α ρ) (m : MethodInfo) (a : α) (hf : s.find m.id = none) :
    evalCall s m a = (s, unmentionedResolution s.fallback m) := by
  rw [evalCall_eq, Shared.resolve, hf]
  exact congrArg (·, unmentionedResolution s.fallback m) (claim_of_not_ordered (by simp [hf]))

/-- **C07, mentioned but unmatched (unordered).** Strict: `NoMatchingCallPatterns`; partial: real
    implementation. No counter moves (the state is returned unchanged). -/
theorem C07_unmatched (s : Shared α ρ) (m : MethodInfo) (a : α) (fm : FnMocker α ρ)
    (hf : s.find m.id = some fm) (hm : fm.mode = .anyOrder)
    (hrej : ∀ p ∈ fm.pats, tryPat p a = none) :
    evalCall s m a =
      (s, match s.fallback with
          | .error => .err (.noMatchingCallPatterns m)
          | .unmock => .contUnmock) :=
  C01_no_match s m a fm hf hm hrej

theorem respond_ret_mem (m : MethodInfo) (pi : Nat) (rs : List (Responder ρ)) (c : Nat) (v : ρ)
    (h : (respond m pi rs c).2 = .ret v) : ∃ r ∈ rs, ∃ o, r.resp = .ret v o := by
  revert h
  unfold respond
  cases findResponderIdx rs c with
  | none => intro h; cases h
  | some ri =>
    dsimp only
    cases hr : rs[ri]? with
    | none => intro h; cases h
    | some r =>
      obtain ⟨st, resp, taken⟩ := r
      cases resp with
      | ret w once =>
        -- handed back is this responder's own `w`; the one other outcome is the error of a spent single-use slot
        have hw : (.ret w : EvalOutcome ρ) = .ret v → ∃ r ∈ rs, ∃ o, r.resp = .ret v o :=
          fun h => ⟨_, List.mem_of_getElem? hr, once, by cases h; rfl⟩
        cases once with
        | false => exact hw
        | true =>
          cases taken with
          | false => exact hw
          | true => intro h; cases h
      | _ => intro h; cases h

/-- **C07, the mock never fabricates a return value.** Whenever `eval` hands a value back, that value
    was configured by a `returns`/`returns_default` responder of a pattern of the called method. -/
theorem C07_never_fabricates (s : Shared α ρ) (m : MethodInfo) (a : α) (v : ρ)
    (h : (evalCall s m a).2 = .ret v) :
    ∃ fm, s.find m.id = some fm ∧ ∃ p ∈ fm.pats, ∃ r ∈ p.responders, ∃ o, r.resp = .ret v o := by
  rw [evalCall_eq] at h
  cases hr : s.resolve m a with
  | miss o => rw [hr] at h; exact absurd h (resolve_miss hr v)
  | hit pi p =>
    rw [hr] at h
    obtain ⟨fm, hf, hp⟩ := pat?_eq_some.1 (resolve_hit hr)
    exact ⟨fm, hf, p, List.mem_of_getElem? hp, respond_ret_mem m pi p.responders p.count v h⟩

/-- **C07, continuation arms of the generated method body.** `Unmock` runs the registered real
    function if the body has an Unmock arm, else panics with `CannotUnmock` naming the method (and the
    error is logged); `CallDefaultImpl` runs the trait's default body if there is one, else panics
    with `NoDefaultImpl`. -/
theorem C07_continuations (env : Env α ρ) (fuel lvl : Nat) (s : Shared α ρ) (m : MethodInfo) (a : α) :
    callMethod env (fuel + 1) lvl s m a =
      match call s m a with
      | (s, .ret v) => ⟨s, [], .ret v, 0, 0⟩
      | (s, .err e) => ⟨s, [], .mockPanic e, 0, 0⟩
      | (s, .userPanic) => ⟨s, [], .userPanic, 0, 0⟩
      | (s, .contAnswer f) => runProg env fuel lvl s (env.answer f m a)
      | (s, .contUnmock) =>
        if m.unmockFn then runProg env fuel lvl s (env.real m a)
        else ⟨s.induce (.cannotUnmock m), [], .mockPanic (.cannotUnmock m), 0, 0⟩
      | (s, .contDefault) =>
        if m.hasDefaultImpl then
          let r := runProg env fuel (lvl + 1) s (env.dflt m a)
          { r with helperDepth := max (lvl + 1) r.helperDepth }
        else ⟨s.induce (.noDefaultImpl m), [], .mockPanic (.noDefaultImpl m), 0, 0⟩ := by
  rfl

/-- non-vacuity: strict mock, unmentioned method without default body -/
example : (evalCall (⟨.error, [], 0, []⟩ : Shared Nat Int) ⟨0, "T", "f", false, false, false⟩ 0).2
    = .err (.noMockImplementation ⟨0, "T", "f", false, false, false⟩) := by decide +kernel


/-! ### the fall-through decision trees as the source has them (`Generated/Control.lean`) -/

/-- the re-translated "no mocker for this function" tree of `DynCtx::eval_dyn` decides as the model on all 8 observations -/
theorem C07_source_no_mocker_tree :
    ∀ d p : Bool, ∀ fb : Gates.Fb, Generated.noMockerTree.eval d p fb = Gates.specNoMocker d p fb := by
  intro d p fb; cases d <;> cases p <;> cases fb <;> rfl

/-- the re-translated "no pattern matched" tree decides as the model -/
theorem C07_source_no_match_tree :
    ∀ d p : Bool, ∀ fb : Gates.Fb, Generated.noMatchTree.eval d p fb = Gates.specNoMatch fb := by
  intro d p fb; cases d <;> cases p <;> cases fb <;> rfl

/-- a call to a method no clause mentions: the outcome is the one the source tree selects, and the state is untouched -/
theorem C07_source_unmentioned {α ρ} (s : Shared α ρ) (m : MethodInfo) (a : α) (h : s.find m.id = none) :
    evalCall s m a =
      (s, concretiseNoMock m (Generated.noMockerTree.eval m.hasDefaultImpl m.partialByDefault (fbOf s.fallback))) := by
  rw [C07_source_no_mocker_tree]; exact evalCall_noMocker_eq_spec s m a h

/-- a call all of whose method's unordered patterns reject: the outcome is the one the source tree selects -/
theorem C07_source_all_reject {α ρ} (s : Shared α ρ) (m : MethodInfo) (a : α) (fm : FnMocker α ρ)
    (h : s.find m.id = some fm) (hm : fm.mode = .anyOrder) (hs : scan fm.pats a 0 = none) :
    evalCall s m a =
      (s, concretiseNoMock m (Generated.noMatchTree.eval m.hasDefaultImpl m.partialByDefault (fbOf s.fallback))) := by
  rw [C07_source_no_match_tree]; exact evalCall_noMatch_eq_spec s m a fm h hm hs

/-- no leaf of either source tree is a fabricated value: every leaf is a continuation or an error -/
example : Generated.noMockerTree.eval false false .error = .errNoMockImplementation ∧
    Generated.noMockerTree.eval true true .error = .callDefault ∧
    Generated.noMatchTree.eval true true .unmock = .unmock := by decide +kernel

end Unimock
