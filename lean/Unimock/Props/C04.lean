import Unimock.Generated.Control
import Unimock.Generated.Counter
import Unimock.Lemmas.Eval
import Unimock.Model.Assemble
import Unimock.Lemmas.Ordered
import Unimock.Generated.ScanSkel
/-!
# C04 — next_call patterns are consumed strictly in declaration order across methods

Statement (properties.jsonl): the ordered patterns of a mock (next_call clauses flattened left to
right, each repeated by its exact count) form one global expected sequence: the i-th call made to any
ordered method is accepted only if it targets the method of the i-th slot and its arguments match
that slot's pattern, and it then gets that slot's response. The first deviating call (wrong method,
wrong arguments, or past the end) panics, and calls to unordered methods never consume or disturb slots.
-/
namespace Unimock
variable {α ρ : Type}

/-- pattern `p` owns global slot `idx` -/
def Pattern.owns (p : Pattern α ρ) (idx : Nat) : Prop := p.lo ≤ idx ∧ idx < p.hi

instance (p : Pattern α ρ) (idx : Nat) : Decidable (p.owns idx) := by unfold Pattern.owns; infer_instance

/-- the slot lookup finds the first pattern, in declaration order, that owns the slot -/
theorem findForOrder_eq_some (ps : List (Pattern α ρ)) (idx pi : Nat) :
    findForOrder ps idx = some pi ↔
      ∃ hlt : pi < ps.length, ps[pi].owns idx ∧ ∀ j (hj : j < pi), ¬ (ps[j]'(by omega)).owns idx := by
  simp [findForOrder, List.findIdx?_eq_some_iff_getElem, Pattern.owns]

theorem findForOrder_none (ps : List (Pattern α ρ)) (idx : Nat) (h : findForOrder ps idx = none) :
    ∀ p ∈ ps, ¬ p.owns idx := by
  simpa [findForOrder, List.findIdx?_eq_none_iff, Pattern.owns] using h

/-- **C04, every ordered call consumes exactly one global slot number** — accepted or not. -/
theorem C04_ordered_call_bumps (s : Shared α ρ) (m : MethodInfo) (a : α) (fm : FnMocker α ρ)
    (hf : s.find m.id = some fm) (hm : fm.mode = .inOrder) :
    (evalCall s m a).1.nextOrdered = s.nextOrdered + 1 := by
  rw [evalCall_eq, apply_nextOrdered, claim_of_mode hf, hm]

/-- **C04, acceptance.** An ordered call to `m` is accepted iff the current global slot is owned by
    a pattern of `m` *and* that pattern's matcher accepts the arguments; it is then answered by that
    pattern at its current match count, and only that pattern's counter (and single-use slot) changes. -/
theorem C04_accepts (s : Shared α ρ) (m : MethodInfo) (a : α) (fm : FnMocker α ρ)
    (hf : s.find m.id = some fm) (hm : fm.mode = .inOrder)
    (pi : Nat) (hlt : pi < fm.pats.length) (hown : fm.pats[pi].owns s.nextOrdered)
    (hfirst : ∀ j (hj : j < pi), ¬ (fm.pats[j]'(by omega)).owns s.nextOrdered)
    (hacc : tryPat fm.pats[pi] a = some .accept) :
    evalCall s m a =
      (({ s with nextOrdered := s.nextOrdered + 1 } : Shared α ρ).setPat m.id pi
          { fm.pats[pi] with count := fm.pats[pi].count + 1,
                             responders := (respond m pi fm.pats[pi].responders fm.pats[pi].count).1 },
        (respond m pi fm.pats[pi].responders fm.pats[pi].count).2) := by
  have hfo := (findForOrder_eq_some fm.pats s.nextOrdered pi).2 ⟨hlt, hown, hfirst⟩
  unfold evalCall
  simp only [hf, hm, hfo, List.getElem?_eq_getElem hlt, hacc]

/-- **C04, wrong method / past the end.** If no pattern of the called ordered method owns the
    current slot, the call panics with `CallOrderNotMatchedForMockFn` (naming the pattern of whichever
    method does own the slot, or "out of range" when none does), and no pattern is counted. -/
theorem C04_wrong_method (s : Shared α ρ) (m : MethodInfo) (a : α) (fm : FnMocker α ρ)
    (hf : s.find m.id = some fm) (hm : fm.mode = .inOrder)
    (hnone : ∀ p ∈ fm.pats, ¬ p.owns s.nextOrdered) :
    evalCall s m a =
      ({ s with nextOrdered := s.nextOrdered + 1 },
       .err (.callOrderNotMatched m s.nextOrdered
              (({ s with nextOrdered := s.nextOrdered + 1 } : Shared α ρ).findOrderedExpected s.nextOrdered))) := by
  have hfo : findForOrder fm.pats s.nextOrdered = none := by
    simpa [findForOrder, List.findIdx?_eq_none_iff, Pattern.owns] using hnone
  unfold evalCall
  simp only [hf, hm, hfo]

/-- **C04, wrong arguments.** If the slot's pattern belongs to the called method but rejects the
    arguments, the call panics with `InputsNotMatchedInCallOrder` and no pattern is counted. -/
theorem C04_wrong_inputs (s : Shared α ρ) (m : MethodInfo) (a : α) (fm : FnMocker α ρ)
    (hf : s.find m.id = some fm) (hm : fm.mode = .inOrder)
    (pi : Nat) (hlt : pi < fm.pats.length) (hown : fm.pats[pi].owns s.nextOrdered)
    (hfirst : ∀ j (hj : j < pi), ¬ (fm.pats[j]'(by omega)).owns s.nextOrdered)
    (hrej : tryPat fm.pats[pi] a = none) :
    evalCall s m a =
      ({ s with nextOrdered := s.nextOrdered + 1 }, .err (.inputsNotMatchedInCallOrder m s.nextOrdered pi)) := by
  have hfo := (findForOrder_eq_some fm.pats s.nextOrdered pi).2 ⟨hlt, hown, hfirst⟩
  unfold evalCall
  simp only [hf, hm, hfo, List.getElem?_eq_getElem hlt, hrej]

/-- **C04, unordered calls never consume or disturb slots.** A call to an unordered method leaves
    the global ordered index unchanged and every pattern of every *other* method (in particular
    every ordered pattern: a method is either ordered or unordered) untouched. -/
theorem C04_unordered_no_slot (s : Shared α ρ) (m : MethodInfo) (a : α) (fm : FnMocker α ρ)
    (hf : s.find m.id = some fm) (hm : fm.mode = .anyOrder) :
    (evalCall s m a).1.nextOrdered = s.nextOrdered ∧
    ∀ id' j, id' ≠ m.id → (evalCall s m a).1.pat? id' j = s.pat? id' j := by
  rw [evalCall_eq]
  exact ⟨by rw [apply_nextOrdered, claim_of_mode hf, hm], fun id' j h => apply_pat?_other s m _ id' j h⟩

/-- calls to methods that are not in the table at all do not touch the state -/
theorem C04_unmentioned_no_slot (s : Shared α ρ) (m : MethodInfo) (a : α) (hf : s.find m.id = none) :
    (evalCall s m a).1 = s := by
  rw [evalCall_eq, Shared.resolve, hf]
  exact claim_of_not_ordered (by simp [hf])

/-! ## the global expected sequence: ranges assigned at construction, counters along a history -/

/-- along a deviation-free history every ordered pattern has been matched exactly as often as the
    global index has advanced into its slot range -/
def CountInv (s : Shared α ρ) : Prop :=
  ∀ id i p, s.pat? id i = some p → modeOf s.mockers id = some .inOrder →
    p.count = min (s.nextOrdered - p.lo) (p.hi - p.lo)

/-- **C04, the slot ranges assigned at construction.** For every clause tree that assembles, the
    ordered patterns (over all methods) own pairwise disjoint ranges `[lo, lo + exact count)`, assigned
    consecutively in flattening order (each range starts where the running index stood and ends where it
    stands afterwards), unordered patterns own nothing, the global index starts at 0 and every counter at
    0 — so the ranges laid end to end are the expected global sequence. -/
theorem C04_assembled_ranges (fb : Fallback) (c : ClauseTree α ρ) (s : Shared α ρ) (h : newMock fb c = .ok s) :
    OrdDisjoint s.mockers ∧ (∃ total, OrdBelow s.mockers total) ∧ s.nextOrdered = 0 ∧ CountInv s := by
  obtain ⟨a, ⟨hd, hb⟩, rfl⟩ := newMock_inv (P := fun a => OrdDisjoint a.mockers ∧ OrdBelow a.mockers a.cur)
    ⟨fun id i id' j p q hp => by simp [patOf] at hp, fun id i p hp => by simp [patOf] at hp⟩
    (fun a a' t hp ha => ⟨(push_ranges a a' t hp ha.1 ha.2).1, (push_ranges a a' t hp ha.1 ha.2).2.1⟩) h
  refine ⟨hd, ⟨a.cur, hb⟩, rfl, fun id i p hp hm => ?_⟩
  simp [(hb id i p hp hm).2.2]

theorem modeOf_setPat (s : Shared α ρ) (id i id' : Nat) (p : Pattern α ρ) :
    modeOf (s.setPat id i p).mockers id' = modeOf s.mockers id' := by
  have h := find_setPat s id i id' p
  unfold Shared.find at h
  unfold modeOf
  rw [h]
  cases s.mockers.find? (·.info.id = id') with
  | none => rfl
  | some m => simp only [Option.map_some]; split <;> rfl

/-- replacing a pattern by one with the same range leaves every range as it was -/
theorem ranges_of_setPat (s : Shared α ρ) (id0 i0 : Nat) (p0 p' : Pattern α ρ) (h0 : s.pat? id0 i0 = some p0)
    (id i : Nat) (p : Pattern α ρ) (hp : (s.setPat id0 i0 p').pat? id i = some p)
    (hlo : p'.lo = p0.lo) (hhi : p'.hi = p0.hi) :
    ∃ q, s.pat? id i = some q ∧ q.lo = p.lo ∧ q.hi = p.hi := by
  rw [pat?_setPat] at hp
  split at hp
  · next h =>
    rw [h.1, h.2, h0] at hp ⊢
    cases hp
    exact ⟨p0, rfl, hlo.symm, hhi.symm⟩
  · exact ⟨p, hp, rfl, rfl⟩

theorem ordDisjoint_setPat (s : Shared α ρ) (id0 i0 : Nat) (p0 p' : Pattern α ρ) (h0 : s.pat? id0 i0 = some p0)
    (hlo : p'.lo = p0.lo) (hhi : p'.hi = p0.hi) (hdis : OrdDisjoint s.mockers) :
    OrdDisjoint (s.setPat id0 i0 p').mockers := by
  intro id i id' j p q hp hq hm1 hm2 hne
  rw [modeOf_setPat] at hm1 hm2
  obtain ⟨p1, hp1, e1, e2⟩ := ranges_of_setPat s id0 i0 p0 p' h0 id i p hp hlo hhi
  obtain ⟨q1, hq1, e3, e4⟩ := ranges_of_setPat s id0 i0 p0 p' h0 id' j q hq hlo hhi
  rw [← e1, ← e2, ← e3, ← e4]
  exact hdis id i id' j p1 q1 hp1 hq1 hm1 hm2 hne

/-- the index moves into (or along) the owner's range … -/
theorem clamp_succ_owner {lo hi n : Nat} (h1 : lo ≤ n) (h2 : n < hi) :
    min (n - lo) (hi - lo) + 1 = min (n + 1 - lo) (hi - lo) := by
  rw [Nat.min_eq_left (Nat.sub_le_sub_right (Nat.le_of_lt h2) lo), Nat.min_eq_left (Nat.sub_le_sub_right h2 lo)]
  exact (Nat.sub_add_comm h1).symm

/-- … and stays before or behind every range disjoint from it -/
theorem clamp_succ_other {lo hi lo' hi' n : Nat} (h1 : lo' ≤ n) (h2 : n < hi') (hd : hi ≤ lo' ∨ hi' ≤ lo) :
    min (n + 1 - lo) (hi - lo) = min (n - lo) (hi - lo) := by
  rcases hd with hd | hd
  · have : hi ≤ n := Nat.le_trans hd h1
    rw [Nat.min_eq_right (Nat.sub_le_sub_right (Nat.le_succ_of_le this) lo), Nat.min_eq_right (Nat.sub_le_sub_right this lo)]
  · have : n + 1 ≤ lo := Nat.le_trans h2 hd
    rw [Nat.sub_eq_zero_of_le this, Nat.sub_eq_zero_of_le (Nat.le_of_succ_le this)]

/-- counting the owner of the current slot while the global index moves on keeps every ordered counter in step -/
theorem countInv_answer (s : Shared α ρ) (hdis : OrdDisjoint s.mockers) (hinv : CountInv s) (id pi : Nat) (p q : Pattern α ρ)
    (hp : s.pat? id pi = some p) (hmode : modeOf s.mockers id = some .inOrder) (hown : p.owns s.nextOrdered)
    (hc : q.count = p.count + 1) (hlo : q.lo = p.lo) (hhi : q.hi = p.hi) :
    CountInv (({ s with nextOrdered := s.nextOrdered + 1 } : Shared α ρ).setPat id pi q) := by
  intro id' i r hr hmr
  rw [modeOf_setPat] at hmr
  rw [pat?_setPat] at hr
  simp only [setPat_nextOrdered]
  split at hr
  · next h =>
    rw [h.1, h.2, show ({ s with nextOrdered := s.nextOrdered + 1 } : Shared α ρ).pat? id pi = some p from hp] at hr
    cases hr
    rw [hc, hlo, hhi, hinv id pi p hp hmode]
    exact clamp_succ_owner hown.1 hown.2
  · next h =>
    have hr' : s.pat? id' i = some r := hr
    rw [hinv id' i r hr' hmr]
    refine (clamp_succ_other hown.1 hown.2 (hdis id' i id pi r p hr' hp hmr hmode ?_)).symm
    by_cases h1 : id' = id
    · exact .inr fun h2 => h ⟨h1, h2⟩
    · exact .inl h1

/-- **C04, an accepted ordered call keeps the counters in step with the global index**, and its
    response index is the slot-local index `i - lo` ("it then gets that slot's response"). -/
theorem C04_accepted_call_refines (s : Shared α ρ) (m : MethodInfo) (a : α) (fm : FnMocker α ρ)
    (hf : s.find m.id = some fm) (hm : fm.mode = .inOrder)
    (hdis : OrdDisjoint s.mockers) (hinv : CountInv s)
    (pi : Nat) (hlt : pi < fm.pats.length) (hown : fm.pats[pi].owns s.nextOrdered)
    (hfirst : ∀ j (hj : j < pi), ¬ (fm.pats[j]'(by omega)).owns s.nextOrdered)
    (hacc : tryPat fm.pats[pi] a = some .accept) :
    fm.pats[pi].count = s.nextOrdered - fm.pats[pi].lo ∧
    (evalCall s m a).2 = (respond m pi fm.pats[pi].responders (s.nextOrdered - fm.pats[pi].lo)).2 ∧
    CountInv (evalCall s m a).1 ∧ OrdDisjoint (evalCall s m a).1.mockers := by
  have hmode : modeOf s.mockers m.id = some .inOrder := by
    unfold modeOf; unfold Shared.find at hf; rw [hf]; simp [hm]
  have hpat : s.pat? m.id pi = some fm.pats[pi] := by rw [pat?_of_find hf, List.getElem?_eq_getElem hlt]
  have hc : fm.pats[pi].count = s.nextOrdered - fm.pats[pi].lo := by
    rw [hinv m.id pi _ hpat hmode]
    exact Nat.min_eq_left (Nat.sub_le_sub_right (Nat.le_of_lt hown.2) _)
  rw [C04_accepts s m a fm hf hm pi hlt hown hfirst hacc]
  exact ⟨hc, by rw [hc], countInv_answer s hdis hinv m.id pi _ _ hpat hmode hown rfl rfl rfl,
    ordDisjoint_setPat { s with nextOrdered := s.nextOrdered + 1 } m.id pi _ _ hpat rfl rfl hdis⟩

/-- **C04, unordered and unmentioned calls are stuttering steps of the refinement**: they keep
    `CountInv` (no ordered pattern and not the global index is touched). -/
theorem C04_unordered_keeps_invariant (s : Shared α ρ) (m : MethodInfo) (a : α)
    (hmode : modeOf s.mockers m.id ≠ some .inOrder) (hinv : CountInv s) :
    CountInv (evalCall s m a).1 := by
  rw [evalCall_eq]
  cases s.resolve m a with
  | miss o => rw [Shared.apply, claim_of_not_ordered hmode]; exact hinv
  | hit pi p =>
    rw [Shared.apply, claim_of_not_ordered hmode, Shared.answer]
    intro id i q hq hmo
    rw [modeOf_setPat] at hmo
    -- an ordered method is another method: its patterns are untouched
    have hne : id ≠ m.id := fun he => hmode (he ▸ hmo)
    rw [pat?_setPat_other _ _ _ _ _ _ (Or.inl hne)] at hq
    exact hinv id i q hq hmo

/-- the slot-ownership test as written in `FnMocker::find_call_pattern_for_call_order` (regenerated from the
    source on every run by `tools/translate_counter.py`) is the model's `Pattern.owns` -/
theorem C04_source_slot_test (p : Pattern α ρ) (idx : Nat) :
    Generated.ownsSrc p.lo p.hi idx = decide (p.owns idx) := by
  unfold Generated.ownsSrc Pattern.owns
  by_cases h1 : p.lo ≤ idx <;> by_cases h2 : idx < p.hi <;> simp [h1, h2]

/-! ### slot allocation as the source has it (`MockAssembler::new_call_pattern`, re-translated into `Generated.slotAlloc`) -/

/-- only ordered patterns take slots of the global sequence, and an ordered pattern takes exactly its count, starting where
    the previous one ended; `isExact` is a don't-care for unordered patterns and forced for ordered ones (type-state, C14) -/
theorem C04_source_slot_allocation (ordered isExact : Bool) (cur n : Nat) (h : ordered = true → isExact = true) :
    Generated.slotAlloc ordered isExact cur n = if ordered then (cur, cur + n, cur + n) else (0, 0, cur) := by
  cases ordered <;> cases isExact <;> simp_all [Generated.slotAlloc]

/-- the model's `newPattern` allocates as the source does -/
theorem C04_source_new_pattern {α ρ} (a : Asm α ρ) (b : Builder α ρ) (h : b.mode = .inOrder → b.ex = .exact) :
    ((newPattern a b).2.lo, (newPattern a b).2.hi, (newPattern a b).1.cur) =
      Generated.slotAlloc (decide (b.mode = .inOrder)) (decide (b.ex = .exact)) a.cur (exactCalls b) := by
  rw [C04_source_slot_allocation _ _ _ _ (by simpa using h)]
  unfold newPattern
  by_cases hm : b.mode = .inOrder <;> simp [hm]

/-- non-vacuity: an unordered exactly-once pattern between two ordered ones takes no slot -/
example : Generated.slotAlloc false true 3 1 = (0, 0, 3) ∧ Generated.slotAlloc true true 3 2 = (3, 5, 5) := by decide


/-! ## source agreement: the `InOrder` arm of `Eval::match_call_pattern` and `bump_ordered_call_index` -/
section Source
open ScanSkel
variable {α ρ : Type}

/-- **C04, source agreement (statement list).** The `InOrder` block as translated from the current
    source claims the slot first — the counter moves by exactly one whatever the verdict — and judges
    the call against the pattern owning that slot only. -/
theorem C04_source_ordered_steps (find : Nat → Option Nat) (r : Nat → R) (next : Nat) :
    runO find r Generated.orderedSteps {} next = specO find r next := by
  unfold Generated.orderedSteps specO
  cases h : find next with
  | none => simp [runO, h]
  | some pi => cases hr : r pi <;> simp [runO, h, hr]

/-- **C04, source agreement (the counter).** `bump_ordered_call_index` is one `fetch_add(1, SeqCst)`:
    it returns the old value and leaves the counter one higher. -/
theorem C04_source_bump (next : Nat) :
    Generated.bumpSkel.run next = some (next, next + 1) ∧ Generated.bumpSkel.seqCst = true := by
  constructor <;> rfl

/-- **C04, source agreement (slot lookup).** `find_call_pattern_for_call_order` as read from the current source —
    its iteration (from `translate_scan.py`) applied to its ownership test (from `translate_counter.py`) — is the
    model's `findForOrder`: the first pattern in declaration order owning the slot. -/
theorem C04_source_find (ps : List (Pattern α ρ)) (idx : Nat) :
    Generated.findSkel.run (ps.map fun p => Generated.ownsSrc p.lo p.hi idx) = some (findForOrder ps idx) := by
  have hc : (Generated.findSkel.overCallPatterns ∧ Generated.findSkel.ownIndex ∧
      (Generated.findSkel.adaptors = [.iter, .enumerate, .find, .map] ∨
       Generated.findSkel.adaptors = [.iter, .enumerate, .forReturn] ∨
       Generated.findSkel.adaptors = [.iter, .position, .index])) := by decide
  unfold FindSkel.run findForOrder
  rw [if_pos hc]
  congr 1
  induction ps with
  | nil => rfl
  | cons p ps ih =>
    simp only [C04_source_slot_test, Pattern.owns] at ih ⊢
    simp only [List.map_cons, List.findIdx?_cons, id, ih]

theorem expGo_is_findSome (ms : List (FnMocker α ρ)) (idx k : Nat) :
    ExpSkel.run.go (ms.map fun m => (decide (m.mode = .inOrder), findForOrder m.pats idx)) k =
      (ms.zipIdx k).findSome? fun (m, j) =>
        if m.mode = .inOrder then (findForOrder m.pats idx).map (fun i => (j, i)) else none := by
  induction ms generalizing k with
  | nil => rfl
  | cons m ms ih =>
    simp only [List.map_cons, ExpSkel.run.go, List.zipIdx_cons, List.findSome?_cons]
    by_cases hm : m.mode = .inOrder
    · simp only [hm, decide_true, ↓reduceIte]
      cases findForOrder m.pats idx with
      | none => simpa using ih (k + 1)
      | some i => simp
    · simp only [hm, decide_false, Bool.false_eq_true, ↓reduceIte]
      exact ih (k + 1)

/-- **C04 / C19, source agreement (the expected pattern of an out-of-order call).**
    `find_ordered_expected_call_pattern_debug` as read from the current source names the first ordered mocker owning
    the claimed slot and the pattern `find_call_pattern_for_call_order` finds there — unordered mockers are skipped. -/
theorem C04_source_expected (s : Shared α ρ) (idx : Nat) :
    Generated.expectedSkel.run (s.mockers.map fun m => (decide (m.mode = .inOrder), findForOrder m.pats idx)) =
      some ((s.mockers.zipIdx 0).findSome? fun (m, j) =>
        if m.mode = .inOrder then (findForOrder m.pats idx).map (fun i => (j, i)) else none) := by
  have hc : (Generated.expectedSkel.overMockers ∧ Generated.expectedSkel.skipsUnordered ∧ Generated.expectedSkel.usesFind ∧
      Generated.expectedSkel.yieldsFound ∧
      (Generated.expectedSkel.shape = .findMap ∨ Generated.expectedSkel.shape = .forLoop ∨
       Generated.expectedSkel.shape = .filterFindMap)) := by decide
  unfold ExpSkel.run
  rw [if_pos hc, expGo_is_findSome]

/-- how an outcome of the source skeleton reads in the model -/
def agreesO (m : MethodInfo) (fm : FnMocker α ρ) (s' : Shared α ρ) : OOut → EvalOutcome ρ → Prop
  | .errCallOrder idx, out => out = .err (.callOrderNotMatched m idx (s'.findOrderedExpected idx))
  | .errInputs idx pi, out => out = .err (.inputsNotMatchedInCallOrder m idx pi)
  | .errPattern pi, out => out = .err (.noMatcherFunction m pi)
  | .unwound _, out => out = .userPanic
  | .selected pi, out => ∃ p, fm.pats[pi]? = some p ∧ out = (respond m pi p.responders p.count).2
  | .ill, _ => False

/-- **C04, the translated source is the model's ordered branch.** For every state, ordered method and
    argument, running the translated statement list with the model's slot lookup and matcher results
    gives the model's verdict and the model's counter. -/
theorem C04_source_ordered_is_model (s : Shared α ρ) (m : MethodInfo) (a : α) (fm : FnMocker α ρ)
    (hf : s.find m.id = some fm) (hm : fm.mode = .inOrder) :
    let res := runO (findForOrder fm.pats)
      (fun pi => match fm.pats[pi]? with | some p => ofTry (tryPat p a) | none => .e)
      Generated.orderedSteps {} s.nextOrdered
    (evalCall s m a).1.nextOrdered = res.2 ∧
    agreesO m fm { s with nextOrdered := s.nextOrdered + 1 } res.1 (evalCall s m a).2 := by
  simp only [C04_source_ordered_steps]
  unfold specO evalCall
  simp only [hf, hm]
  cases hfo : findForOrder fm.pats s.nextOrdered with
  | none => simp [agreesO]
  | some pi =>
    have hlt := ((findForOrder_eq_some fm.pats s.nextOrdered pi).1 hfo).1
    simp only [List.getElem?_eq_getElem hlt]
    cases ht : tryPat fm.pats[pi] a with
    | none => simp [ofTry, agreesO]
    | some t =>
      cases t with
      | accept =>
        simp only [ofTry, agreesO]
        exact ⟨rfl, _, List.getElem?_eq_getElem hlt, rfl⟩
      | noMatcher => simp [ofTry, agreesO]
      | userPanic => simp [ofTry, agreesO]

/-- non-vacuity of the source-agreement theorems: concrete runs of the translated skeletons -/
example :
    Generated.findSkel.run [false, true, true] = some (some 1) ∧
    Generated.expectedSkel.run [(false, some 0), (true, none), (true, some 2)] = some (some (2, 2)) ∧
    runO (fun i => if i = 3 then some 1 else none) (fun _ => .f) Generated.orderedSteps {} 3 = (.errInputs 3 1, 4) ∧
    runO (fun _ => none) (fun _ => .t) Generated.orderedSteps {} 7 = (.errCallOrder 7, 8) ∧
    runO (fun _ => some 0) (fun _ => .t) Generated.orderedSteps {} 0 = (.selected 0, 1) := by decide

end Source

end Unimock
