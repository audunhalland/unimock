import Unimock.Lemmas.State
import Unimock.Lemmas.Scan
/-!
`evalCall` in two stages: a call is first *resolved* — a decision that reads the fallback mode, the global ordered index
and the called method's own table entry, nothing else — and the resolution is then *applied*: an ordered method's call
claims the global index whatever comes of it, and a pattern that answers is counted and asked for its response.
Facts about `evalCall` that do not concern one particular branch follow from `evalCall_eq` by two cases.
-/
namespace Unimock
variable {α ρ : Type}

/-- what `evalCall` decides before it touches a counter -/
inductive Resolution (α ρ : Type)
  /-- no pattern answers; `out` is a continuation, a mock error or the matcher's own panic -/
  | miss (out : EvalOutcome ρ)
  /-- pattern `pi` of the called method, which currently is `p`, answers -/
  | hit (pi : Nat) (p : Pattern α ρ)

/-- the `InAnyOrder` arm of `match_call_pattern` -/
def resolveAny (fb : Fallback) (m : MethodInfo) (a : α) (fm : FnMocker α ρ) : Resolution α ρ :=
  match scan fm.pats a 0 with
  | none => .miss (match fb with | .error => .err (.noMatchingCallPatterns m) | .unmock => .contUnmock)
  | some (pi, .noMatcher) => .miss (.err (.noMatcherFunction m pi))
  | some (_, .userPanic) => .miss .userPanic
  | some (pi, .accept) =>
    match fm.pats[pi]? with
    | none => .miss (.err (.noMatchingCallPatterns m))
    | some p => .hit pi p

/-- the `InOrder` arm, for the claimed global index `idx`; `exp` is the hint a wrong-order error carries -/
def resolveOrd (idx : Nat) (exp : Option (MethodInfo × Nat)) (m : MethodInfo) (a : α) (fm : FnMocker α ρ) : Resolution α ρ :=
  match findForOrder fm.pats idx with
  | none => .miss (.err (.callOrderNotMatched m idx exp))
  | some pi =>
    match fm.pats[pi]? with
    | none => .miss (.err (.callOrderNotMatched m idx none))
    | some p =>
      match tryPat p a with
      | some .noMatcher => .miss (.err (.noMatcherFunction m pi))
      | some .userPanic => .miss .userPanic
      | none => .miss (.err (.inputsNotMatchedInCallOrder m idx pi))
      | some .accept => .hit pi p

/-- the decision of `evalCall`, with everything it reads of the state as an argument -/
def resolveIn (fb : Fallback) (idx : Nat) (exp : Option (MethodInfo × Nat)) (m : MethodInfo) (a : α) :
    Option (FnMocker α ρ) → Resolution α ρ
  | none =>
    .miss (if m.hasDefaultImpl then .contDefault else if m.partialByDefault then .contUnmock else
      match fb with | .error => .err (.noMockImplementation m) | .unmock => .contUnmock)
  | some fm =>
    match fm.mode with
    | .anyOrder => resolveAny fb m a fm
    | .inOrder => resolveOrd idx exp m a fm

def Shared.resolve (s : Shared α ρ) (m : MethodInfo) (a : α) : Resolution α ρ :=
  resolveIn s.fallback s.nextOrdered (s.findOrderedExpected s.nextOrdered) m a (s.find m.id)

/-- a call to an ordered method claims the next global index, whatever comes of it -/
def Shared.claim (s : Shared α ρ) (m : MethodInfo) : Shared α ρ :=
  match (s.find m.id).map (·.mode) with
  | some Mode.inOrder => { s with nextOrdered := s.nextOrdered + 1 }
  | _ => s

/-- pattern `pi` of `m`, currently `p`, answers: it is counted, and asked for the response of its count so far -/
def Shared.answer (s : Shared α ρ) (m : MethodInfo) (pi : Nat) (p : Pattern α ρ) : Shared α ρ × EvalOutcome ρ :=
  (s.setPat m.id pi { p with count := p.count + 1, responders := (respond m pi p.responders p.count).1 },
    (respond m pi p.responders p.count).2)

def Shared.apply (s : Shared α ρ) (m : MethodInfo) : Resolution α ρ → Shared α ρ × EvalOutcome ρ
  | .miss o => (s.claim m, o)
  | .hit pi p => (s.claim m).answer m pi p

theorem evalCall_eq (s : Shared α ρ) (m : MethodInfo) (a : α) : evalCall s m a = s.apply m (s.resolve m a) := by
  unfold evalCall Shared.resolve resolveIn Shared.apply Shared.answer Shared.claim
  cases hf : s.find m.id with
  | none => cases m.hasDefaultImpl <;> cases m.partialByDefault <;> cases s.fallback <;> rfl
  | some fm =>
    cases hm : fm.mode with
    | anyOrder =>
      simp only [resolveAny, Option.map_some, hm]
      rcases scan fm.pats a 0 with _ | ⟨pi, _ | _ | _⟩
      · cases s.fallback <;> rfl
      · dsimp only; cases fm.pats[pi]? <;> rfl
      · rfl
      · rfl
    | inOrder =>
      simp only [resolveOrd, Option.map_some, hm]
      cases findForOrder fm.pats s.nextOrdered with
      | none => rfl
      | some pi =>
        dsimp only
        cases fm.pats[pi]? with
        | none => rfl
        | some p => dsimp only; rcases tryPat p a with _ | _ | _ | _ <;> rfl

/-! ### what a resolution says, and what applying it leaves alone -/

/-- a resolution's hit is a pattern of the called method; a miss returns no value: the call continues elsewhere, fails, or
    the matcher itself panicked -/
theorem resolve_spec (s : Shared α ρ) (m : MethodInfo) (a : α) :
    match s.resolve m a with
    | .miss o => ∀ v, o ≠ .ret v
    | .hit pi p => s.pat? m.id pi = some p := by
  unfold Shared.resolve resolveIn
  cases hf : s.find m.id with
  | none => cases m.hasDefaultImpl <;> cases m.partialByDefault <;> cases s.fallback <;> (intro v; nofun)
  | some fm =>
    cases hm : fm.mode with
    | anyOrder =>
      simp only [hm, resolveAny]
      rcases scan fm.pats a 0 with _ | ⟨pi, _ | _ | _⟩
      · cases s.fallback <;> (intro v; nofun)
      · dsimp only
        cases hp : fm.pats[pi]? with
        | none => intro v; nofun
        | some p => exact (pat?_of_find hf pi).trans hp
      · intro v; nofun
      · intro v; nofun
    | inOrder =>
      simp only [hm, resolveOrd]
      cases findForOrder fm.pats s.nextOrdered with
      | none => intro v; nofun
      | some pi =>
        dsimp only
        cases hp : fm.pats[pi]? with
        | none => intro v; nofun
        | some p =>
          dsimp only
          rcases tryPat p a with _ | _ | _ | _
          · intro v; nofun
          · exact (pat?_of_find hf pi).trans hp
          · intro v; nofun
          · intro v; nofun

theorem resolve_hit {s : Shared α ρ} {m : MethodInfo} {a : α} {pi : Nat} {p : Pattern α ρ}
    (h : s.resolve m a = .hit pi p) : s.pat? m.id pi = some p := by
  have := resolve_spec s m a; rwa [h] at this

theorem resolve_miss {s : Shared α ρ} {m : MethodInfo} {a : α} {o : EvalOutcome ρ}
    (h : s.resolve m a = .miss o) (v : ρ) : o ≠ .ret v := by
  have := resolve_spec s m a; rw [h] at this; exact this v

@[simp] theorem claim_mockers (s : Shared α ρ) (m : MethodInfo) : (s.claim m).mockers = s.mockers := by
  unfold Shared.claim; split <;> rfl
@[simp] theorem claim_reasons (s : Shared α ρ) (m : MethodInfo) : (s.claim m).reasons = s.reasons := by
  unfold Shared.claim; split <;> rfl
@[simp] theorem claim_pat? (s : Shared α ρ) (m : MethodInfo) (id i : Nat) : (s.claim m).pat? id i = s.pat? id i := by
  unfold Shared.claim; split <;> rfl

theorem claim_of_mode {s : Shared α ρ} {m : MethodInfo} {fm : FnMocker α ρ} (hf : s.find m.id = some fm) :
    s.claim m = match fm.mode with
      | .anyOrder => s
      | .inOrder => { s with nextOrdered := s.nextOrdered + 1 } := by
  unfold Shared.claim
  rw [hf, Option.map_some]
  cases hm : fm.mode <;> simp only [hm]

theorem claim_of_not_ordered {s : Shared α ρ} {m : MethodInfo} (h : (s.find m.id).map (·.mode) ≠ some .inOrder) :
    s.claim m = s := by
  unfold Shared.claim
  split
  · next h' => exact absurd h' h
  · rfl

@[simp] theorem apply_nextOrdered (s : Shared α ρ) (m : MethodInfo) (r : Resolution α ρ) :
    (s.apply m r).1.nextOrdered = (s.claim m).nextOrdered := by cases r <;> rfl
@[simp] theorem apply_reasons (s : Shared α ρ) (m : MethodInfo) (r : Resolution α ρ) :
    (s.apply m r).1.reasons = s.reasons := by cases r <;> simp [Shared.apply, Shared.answer]

/-- a call touches no pattern of any other method -/
theorem apply_pat?_other (s : Shared α ρ) (m : MethodInfo) (r : Resolution α ρ) (id j : Nat) (h : id ≠ m.id) :
    (s.apply m r).1.pat? id j = s.pat? id j := by
  cases r with
  | miss o => exact claim_pat? s m id j
  | hit pi p => simp only [Shared.apply, Shared.answer, pat?_setPat_other _ _ _ _ _ _ (Or.inl h), claim_pat?]

/-- the outcome is decided by the resolution alone -/
theorem apply_snd_congr (s s' : Shared α ρ) (m : MethodInfo) (r : Resolution α ρ) : (s.apply m r).2 = (s'.apply m r).2 := by
  cases r <;> rfl

/-- an unordered (or unmentioned) method's call is resolved without the global index -/
theorem resolveIn_unordered (fb : Fallback) (idx idx' : Nat) (exp exp' : Option (MethodInfo × Nat)) (m : MethodInfo) (a : α)
    (e : Option (FnMocker α ρ)) (h : ∀ fm, e = some fm → fm.mode = .anyOrder) :
    resolveIn fb idx exp m a e = resolveIn fb idx' exp' m a e := by
  cases e with
  | none => rfl
  | some fm => simp only [resolveIn, h fm rfl]

/-- the hint is passed on to one error and decides nothing -/
theorem resolveIn_hint (fb : Fallback) (idx : Nat) (exp exp' : Option (MethodInfo × Nat)) (m : MethodInfo) (a : α)
    (e : Option (FnMocker α ρ)) :
    resolveIn fb idx exp m a e = resolveIn fb idx exp' m a e ∨
      (resolveIn fb idx exp m a e = .miss (.err (.callOrderNotMatched m idx exp)) ∧
       resolveIn fb idx exp' m a e = .miss (.err (.callOrderNotMatched m idx exp'))) := by
  cases e with
  | none => exact .inl rfl
  | some fm =>
    cases hm : fm.mode with
    | anyOrder => exact .inl (by simp only [resolveIn, hm])
    | inOrder =>
      simp only [resolveIn, hm, resolveOrd]
      cases findForOrder fm.pats idx with
      | none => exact .inr ⟨rfl, rfl⟩
      | some pi => exact .inl rfl

theorem uniqueIds_call (s : Shared α ρ) (m : MethodInfo) (a : α) (h : s.UniqueIds) : (call s m a).1.UniqueIds := by
  have : (evalCall s m a).1.UniqueIds := by
    rw [evalCall_eq]
    cases s.resolve m a with
    | miss o => unfold Shared.UniqueIds; rwa [Shared.apply, claim_mockers]
    | hit pi p => exact uniqueIds_setPat _ _ _ _ (by unfold Shared.UniqueIds; rwa [claim_mockers])
  unfold call
  split
  · next h' => rw [h'] at this; exact this
  · exact this

end Unimock
