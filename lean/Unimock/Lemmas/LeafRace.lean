import Unimock.Model.LeafRace
/-! Invariant of the leaf race: the leaves taken so far form a prefix, all in the hands of one requester. -/
namespace Unimock.LeafRace
open List

theorem Req.done_iff {n : Nat} {r : Req} : r.done n = true ↔ r.failed = true ∨ n ≤ r.pos := by
  simp [Req.done]

theorem Req.received_iff {n : Nat} {r : Req} : r.received n = true ↔ r.failed = false ∧ n ≤ r.pos := by
  simp [Req.received]

theorem reqs_length_step (s : St) (i : Nat) : (step s i).reqs.length = s.reqs.length := by
  unfold step
  cases s.reqs[i]? with
  | none => rfl
  | some r => simp only [apply_ite St.reqs, apply_ite List.length, length_set, ite_self]

theorem reqs_length_run (s : St) (sch : List Nat) : (run s sch).reqs.length = s.reqs.length := by
  induction sch generalizing s with
  | nil => rfl
  | cons i is ih => exact (ih _).trans (reqs_length_step s i)

/-- the leaves taken so far are exactly `[0, k)`, all taken by requester `w`, who stands at leaf `k` and has not
    failed; every other requester still stands at leaf 0 (it has taken nothing). While nothing is taken any
    requester serves as `w`; whoever takes leaf 0 is `w` from then on. -/
structure Inv (s : St) (k w : Nat) : Prop where
  leaf_full : ∀ {p}, p < s.leaves.length → (s.leaves[p]? = some true ↔ k ≤ p)
  valid : 0 < s.reqs.length → w < s.reqs.length
  winner : ∀ {r}, s.reqs[w]? = some r → r.pos = k ∧ r.failed = false
  others : ∀ {j r}, j ≠ w → s.reqs[j]? = some r → r.pos = 0

theorem Inv.init (n m : Nat) : Inv (init n m) 0 0 where
  leaf_full hp := by rw [getElem?_eq_getElem hp]; simp [LeafRace.init]
  valid := id
  winner h := by cases eq_of_mem_replicate (mem_of_getElem? h); exact ⟨rfl, rfl⟩
  others _ h := by cases eq_of_mem_replicate (mem_of_getElem? h); rfl

variable {s : St} {k w : Nat}

theorem Inv.step (h : Inv s k w) (i : Nat) : ∃ k' w', Inv (step s i) k' w' := by
  unfold LeafRace.step
  cases hr : s.reqs[i]? with
  | none => exact ⟨k, w, h⟩
  | some r =>
    have hi : i < s.reqs.length := (List.getElem?_eq_some_iff.mp hr).1
    dsimp only
    by_cases hd : r.done s.leaves.length = true
    · rw [if_pos hd]; exact ⟨k, w, h⟩
    rw [if_neg hd]
    rw [Req.done_iff, not_or, Bool.not_eq_true, Nat.not_le] at hd
    by_cases hfull : s.leaves[r.pos]? = some true
    · rw [if_pos hfull]
      rw [h.leaf_full hd.2] at hfull
      -- a full leaf is found only at `k`: the winner stands there, anyone else stands at `0 ≤ k`
      obtain rfl : r.pos = k := by
        by_cases hw : i = w
        · exact (h.winner (hw ▸ hr)).1
        · exact Nat.le_antisymm (h.others hw hr ▸ k.zero_le) hfull
      exact ⟨r.pos + 1, i, {
        leaf_full := fun {p} hp => by
          rw [length_set] at hp
          by_cases hkp : r.pos = p
          · rw [← hkp, getElem?_set_self hd.2]
            simp
          · rw [getElem?_set_ne hkp, h.leaf_full hp]
            exact ⟨fun hle => Nat.lt_of_le_of_ne hle hkp, Nat.le_of_lt⟩
        valid := fun _ => by rwa [length_set]
        winner := fun hr' => by
          rw [getElem?_set_self hi] at hr'
          cases hr'
          exact ⟨rfl, hd.1⟩
        others := fun {j r'} hj hr' => by
          rw [getElem?_set_ne (Ne.symm hj)] at hr'
          -- if `j` is the old winner, `i` is not: `i` stood at 0, so `k = 0` and the old winner stands at 0 too
          by_cases hw : j = w
          · exact (h.winner (hw ▸ hr')).1.trans (h.others (hw ▸ Ne.symm hj) hr)
          · exact h.others hw hr' }⟩
    · rw [if_neg hfull]
      rw [h.leaf_full hd.2, Nat.not_le] at hfull
      -- an empty leaf lies below `k`, so it is not the winner who fails
      have hw : i ≠ w := fun hw => Nat.lt_irrefl k ((h.winner (hw ▸ hr)).1 ▸ hfull)
      exact ⟨k, w, {
        leaf_full := h.leaf_full
        valid := by rw [length_set]; exact h.valid
        winner := fun hr' => h.winner (by rwa [getElem?_set_ne hw] at hr')
        others := fun {j r'} hj hr' => by
          by_cases hji : i = j
          · rw [hji, getElem?_set_self (hji ▸ hi)] at hr'
            cases hr'
            exact (h.others hw hr :)
          · rw [getElem?_set_ne hji] at hr'
            exact h.others hj hr' }⟩

theorem Inv.run (h : Inv s k w) (sch : List Nat) : ∃ k' w', Inv (run s sch) k' w' := by
  induction sch generalizing s k w with
  | nil => exact ⟨k, w, h⟩
  | cons i is ih => obtain ⟨k', w', h'⟩ := h.step i; exact ih h'

variable {n : Nat} {r : Req}

theorem Inv.eq_winner_of_received (h : Inv s k w) (hn : 0 < n) {j : Nat} (hr : s.reqs[j]? = some r)
    (hrec : r.received n = true) : j = w :=
  Decidable.by_contra fun hj => Nat.not_le.mpr hn (h.others hj hr ▸ (Req.received_iff.mp hrec).2)

theorem Inv.received_of_done (h : Inv s k w) (hr : s.reqs[w]? = some r) (hd : r.done n = true) :
    r.received n = true :=
  have hf := (h.winner hr).2
  Req.received_iff.mpr ⟨hf, (Req.done_iff.mp hd).resolve_left (hf ▸ Bool.false_ne_true)⟩

theorem Inv.failed_of_done (h : Inv s k w) (hn : 0 < n) {j : Nat} (hj : j ≠ w) (hr : s.reqs[j]? = some r)
    (hd : r.done n = true) : r.failed = true ∧ r.pos = 0 :=
  have hp := h.others hj hr
  ⟨(Req.done_iff.mp hd).resolve_right (hp ▸ Nat.not_le.mpr hn), hp⟩

end Unimock.LeafRace
