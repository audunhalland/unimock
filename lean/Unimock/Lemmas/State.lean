import Unimock.Model.Interleave
/-!
Lookups in the shared state and the two in-place updates (`setPat`, `mapPat`).

Everything the runtime reads of a pattern goes through `Shared.pat?`; `patCount`, `slotTaken` (and `countOf`, `hasPat` of the
proof files) are views of it. `pat?_mapPat` is the only place where an update is pushed through a lookup by cases.
-/
namespace Unimock
variable {α ρ : Type}

/-- pattern `i` of method `id` -/
def Shared.pat? (s : Shared α ρ) (id i : Nat) : Option (Pattern α ρ) :=
  (s.find id).bind (·.pats[i]?)

theorem find_id {s : Shared α ρ} {id : Nat} {fm : FnMocker α ρ} (h : s.find id = some fm) : fm.info.id = id := by
  simpa using List.find?_some h

theorem pat?_of_find {s : Shared α ρ} {id : Nat} {fm : FnMocker α ρ} (h : s.find id = some fm) (i : Nat) :
    s.pat? id i = fm.pats[i]? := by
  simp [Shared.pat?, h]

theorem find?_map_upd (ms : List (FnMocker α ρ)) (id id' : Nat) (f : FnMocker α ρ → FnMocker α ρ)
    (hf : ∀ m, (f m).info = m.info) :
    (ms.map fun m => if m.info.id = id then f m else m).find? (·.info.id = id') =
      (ms.find? (·.info.id = id')).map fun m => if m.info.id = id then f m else m := by
  rw [List.find?_map]
  congr 2
  funext m
  by_cases h : m.info.id = id <;> simp [h, hf]

theorem find_mapPat (s : Shared α ρ) (id pi id' : Nat) (f : Pattern α ρ → Pattern α ρ) :
    (s.mapPat id pi f).find id' =
      (s.find id').map fun m => if m.info.id = id then { m with pats := m.pats.modify pi f } else m :=
  find?_map_upd s.mockers id id' (fun m => { m with pats := m.pats.modify pi f }) (fun _ => rfl)

theorem pat?_mapPat (s : Shared α ρ) (id pi id' pi' : Nat) (f : Pattern α ρ → Pattern α ρ) :
    (s.mapPat id pi f).pat? id' pi' = if id' = id ∧ pi' = pi then (s.pat? id' pi').map f else s.pat? id' pi' := by
  unfold Shared.pat?
  rw [find_mapPat]
  cases hf : s.find id' with
  | none => simp
  | some fm =>
    by_cases hid : id' = id <;> by_cases hpi : pi = pi' <;>
      simp [find_id hf, hid, hpi, eq_comm (a := pi')]

theorem setPat_eq_mapPat (s : Shared α ρ) (id i : Nat) (p : Pattern α ρ) : s.setPat id i p = s.mapPat id i fun _ => p := by
  have : ∀ l : List (Pattern α ρ), l.set i p = l.modify i fun _ => p := fun l =>
    List.ext_getElem? fun j => by rw [List.getElem?_set', List.getElem?_modify]; by_cases h : i = j <;> simp [h] <;> rfl
  simp only [Shared.setPat, Shared.mapPat, this]

theorem find_setPat (s : Shared α ρ) (id i id' : Nat) (p : Pattern α ρ) :
    (s.setPat id i p).find id' =
      (s.find id').map fun m => if m.info.id = id then { m with pats := m.pats.set i p } else m :=
  find?_map_upd s.mockers id id' (fun m => { m with pats := m.pats.set i p }) (fun _ => rfl)

theorem pat?_setPat (s : Shared α ρ) (id i id' j : Nat) (p : Pattern α ρ) :
    (s.setPat id i p).pat? id' j = if id' = id ∧ j = i then (s.pat? id' j).map fun _ => p else s.pat? id' j := by
  rw [setPat_eq_mapPat, pat?_mapPat]

theorem pat?_setPat_same (s : Shared α ρ) (id i : Nat) (p q : Pattern α ρ)
    (h : s.pat? id i = some q) : (s.setPat id i p).pat? id i = some p := by
  simp [pat?_setPat, h]

theorem pat?_setPat_other (s : Shared α ρ) (id i id' j : Nat) (p : Pattern α ρ)
    (h : id' ≠ id ∨ j ≠ i) : (s.setPat id i p).pat? id' j = s.pat? id' j := by
  rw [pat?_setPat, if_neg fun ⟨h1, h2⟩ => h.elim (· h1) (· h2)]

@[simp] theorem setPat_fallback (s : Shared α ρ) (id i : Nat) (p : Pattern α ρ) :
    (s.setPat id i p).fallback = s.fallback := rfl
@[simp] theorem setPat_nextOrdered (s : Shared α ρ) (id i : Nat) (p : Pattern α ρ) :
    (s.setPat id i p).nextOrdered = s.nextOrdered := rfl
@[simp] theorem setPat_reasons (s : Shared α ρ) (id i : Nat) (p : Pattern α ρ) :
    (s.setPat id i p).reasons = s.reasons := rfl

theorem setPat_setPat (s : Shared α ρ) (id i : Nat) (p q : Pattern α ρ) :
    (s.setPat id i p).setPat id i q = s.setPat id i q := by
  unfold Shared.setPat
  simp only [List.map_map]
  congr 1
  apply List.map_congr_left
  intro m _
  by_cases hid : m.info.id = id <;> simp [hid]

theorem pat?_eq_some {s : Shared α ρ} {id i : Nat} {p : Pattern α ρ} :
    s.pat? id i = some p ↔ ∃ fm, s.find id = some fm ∧ fm.pats[i]? = some p := by
  unfold Shared.pat?
  cases s.find id <;> simp

/-! ### the model's observations as views of `pat?` -/

theorem patCount_eq (s : Shared α ρ) (id pi : Nat) : s.patCount id pi = ((s.pat? id pi).map (·.count)).getD 0 := by
  unfold Shared.patCount Shared.pat?
  cases s.find id with
  | none => rfl
  | some fm => cases h : fm.pats[pi]? <;> simp [h]

theorem slotTaken_eq (s : Shared α ρ) (id pi ri : Nat) :
    s.slotTaken id pi ri = ((s.pat? id pi).bind (·.responders[ri]?) |>.map (·.taken)).getD true := by
  unfold Shared.slotTaken Shared.pat?
  cases s.find id with
  | none => rfl
  | some fm =>
    cases h : fm.pats[pi]? with
    | none => simp [h]
    | some p => cases h' : p.responders[ri]? <;> simp [h, h']

/-! ### distinct method ids -/

/-- method ids of the table are pairwise distinct (true of every assembled mock) -/
def Shared.UniqueIds (s : Shared α ρ) : Prop := (s.mockers.map (·.info.id)).Nodup

theorem map_id_upd (ms : List (FnMocker α ρ)) (id : Nat) (f : FnMocker α ρ → FnMocker α ρ) (hf : ∀ m, (f m).info = m.info) :
    (ms.map fun m => if m.info.id = id then f m else m).map (·.info.id) = ms.map (·.info.id) := by
  rw [List.map_map]
  congr 1
  funext m
  by_cases h : m.info.id = id <;> simp [h, hf]

theorem uniqueIds_mapPat (s : Shared α ρ) (id i : Nat) (f : Pattern α ρ → Pattern α ρ) (h : s.UniqueIds) :
    (s.mapPat id i f).UniqueIds := by
  unfold Shared.UniqueIds Shared.mapPat
  rwa [map_id_upd s.mockers id (fun m => { m with pats := m.pats.modify i f }) fun _ => rfl]

theorem uniqueIds_setPat (s : Shared α ρ) (id i : Nat) (p : Pattern α ρ) (h : s.UniqueIds) :
    (s.setPat id i p).UniqueIds := by
  rw [setPat_eq_mapPat]; exact uniqueIds_mapPat s id i _ h

/-- with distinct ids a table entry is what the lookup of its id finds -/
theorem find_of_mem {s : Shared α ρ} (hu : s.UniqueIds) {fm : FnMocker α ρ} (hm : fm ∈ s.mockers) :
    s.find fm.info.id = some fm := by
  unfold Shared.UniqueIds at hu
  unfold Shared.find
  generalize s.mockers = ms at hu hm
  induction ms with
  | nil => cases hm
  | cons x xs ih =>
    rw [List.map_cons, List.nodup_cons] at hu
    rcases List.mem_cons.1 hm with rfl | hm'
    · simp
    · have hx : x.info.id ≠ fm.info.id := fun hx => hu.1 (hx ▸ List.mem_map.2 ⟨fm, hm', rfl⟩)
      rw [List.find?_cons_of_neg (by simpa using hx)]
      exact ih hu.2 hm'

/-- with distinct ids, updating a pattern in place is writing back the updated copy of the looked-up pattern -/
theorem mapPat_eq_setPat (s : Shared α ρ) (hu : s.UniqueIds) (id pi : Nat) (f : Pattern α ρ → Pattern α ρ)
    (p : Pattern α ρ) (hp : s.pat? id pi = some p) : s.mapPat id pi f = s.setPat id pi (f p) := by
  rw [setPat_eq_mapPat]
  unfold Shared.mapPat
  congr 1
  apply List.map_congr_left
  intro m hm
  split
  · next hid =>
    have : m.pats[pi]? = some p := by rw [← pat?_of_find (hid ▸ find_of_mem hu hm)]; exact hp
    congr 1
    exact List.ext_getElem? fun j => by
      rw [List.getElem?_modify, List.getElem?_modify]
      by_cases h : pi = j
      · subst h; simp [this]
      · simp [h]
  · rfl

end Unimock
