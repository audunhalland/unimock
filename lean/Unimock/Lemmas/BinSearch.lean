import Unimock.Model.Core
/-! The modelled std `binary_search_by` lands on the greatest index whose key is ≤ the target. -/
namespace Unimock

/-- Let `i` be the boundary of the keys below `n`: exactly the indexes above `i` hold a key `> k`.
    Then the loop narrows every window `[base, base + size)` that contains `i` down to `i`, and
    `size - 1` iterations suffice. -/
theorem bsLoop_inv (keys : Array Nat) (k i n : Nat) (h : ∀ j, j < n → (k < keys[j]! ↔ i < j)) :
    ∀ fuel size base, size ≤ fuel + 1 → base ≤ i → i < base + size → base + size ≤ n →
      bsLoop keys k fuel size base = i := by
  have single {size base} (hs : size ≤ 1) (hlo : base ≤ i) (hhi : i < base + size) : base = i :=
    Nat.le_antisymm hlo (Nat.le_of_lt_succ (Nat.lt_of_lt_of_le hhi (Nat.add_le_add_left hs base)))
  intro fuel
  induction fuel with
  | zero => exact fun size base hfuel hlo hhi _ => single hfuel hlo hhi
  | succ fuel ih =>
    intro size base hfuel hlo hhi hn
    show (if size > 1 then bsLoop keys k fuel (size - size / 2)
      (if keys[base + size / 2]! > k then base else base + size / 2) else base) = i
    split
    next hsz =>
      -- the window splits at `half` into a nonempty part and a kept part `size - half` at least as large
      have hpos : 0 < size / 2 := Nat.div_pos hsz (by decide)
      have hle : size / 2 ≤ size - size / 2 := Nat.le_sub_of_add_le (Nat.two_mul _ ▸ Nat.mul_div_le size 2)
      generalize size / 2 = half at *
      have hsplit : base + half + (size - half) = base + size := by
        rw [Nat.add_assoc, Nat.add_sub_cancel' (Nat.le_trans hle (Nat.sub_le ..))]
      have hfuel' : size - half ≤ fuel + 1 :=
        Nat.sub_le_of_le_add (Nat.le_trans hfuel (Nat.add_le_add_left hpos _))
      have hmid := h (base + half) (Nat.lt_of_lt_of_le
        (Nat.add_lt_add_left (Nat.sub_pos_iff_lt.1 (Nat.lt_of_lt_of_le hpos hle)) base) hn)
      by_cases hg : i < base + half
      · rw [if_pos (hmid.2 hg)]
        exact ih _ _ hfuel' hlo (Nat.lt_of_lt_of_le hg (Nat.add_le_add_left hle _))
          (Nat.le_trans (Nat.add_le_add_left (Nat.sub_le ..) _) hn)
      · rw [if_neg (mt hmid.1 hg)]
        exact ih _ _ hfuel' (Nat.le_of_not_lt hg) (hsplit ▸ hhi) (hsplit ▸ hn)
    next hsz => exact single (Nat.le_of_not_lt hsz) hlo hhi

/-- `findKey` returns the boundary index `i`: the greatest index whose key is `≤ k` (of equal keys
    the last one), provided the keys above it are all `> k`, as they are in a sorted array. -/
theorem findKey_eq_some (keys : Array Nat) (k i : Nat) (hi : i < keys.size)
    (h : ∀ j, j < keys.size → (k < keys[j]! ↔ i < j)) : findKey keys k = some i := by
  have hloop : bsLoop keys k keys.size keys.size 0 = i :=
    bsLoop_inv keys k i keys.size h _ _ _ (Nat.le_succ _) (Nat.zero_le i) (Nat.zero_add _ ▸ hi)
      (Nat.le_of_eq (Nat.zero_add _))
  have hik : keys[i]! ≤ k := Nat.le_of_not_lt fun hk => Nat.lt_irrefl i ((h i hi).1 hk)
  have hne : keys.size ≠ 0 := Nat.ne_of_gt (Nat.zero_lt_of_lt hi)
  simp only [findKey, binarySearch, if_neg hne, hloop]
  -- `Ok i` on a hit; otherwise `keys[i] < k`, std answers `Err (i + 1)` and unimock steps back
  by_cases heq : keys[i]! = k
  · rw [if_pos heq]
  · rw [if_neg heq, if_pos (Nat.lt_of_le_of_ne hik heq)]; rfl

theorem findResponderIdx_eq_some {ρ} (rs : List (Responder ρ)) (c i : Nat) (hi : i < rs.length)
    (h : ∀ j (hj : j < rs.length), c < rs[j].start ↔ i < j) : findResponderIdx rs c = some i := by
  refine findKey_eq_some _ c i (by simpa using hi) fun j hj => ?_
  have hj' : j < rs.length := by simpa using hj
  simpa [hj'] using h j hj'

/-- a nondecreasing sequence that starts at or below `c` has a boundary among its first `n` terms -/
theorem exists_boundary (f : Nat → Nat) (hf : ∀ a b, a ≤ b → f a ≤ f b) (c : Nat) (h0 : f 0 ≤ c) :
    ∀ n, 0 < n → ∃ i, i < n ∧ ∀ j, j < n → (c < f j ↔ i < j) := by
  intro n
  induction n with
  | zero => exact fun h => absurd h (Nat.lt_irrefl 0)
  | succ n ih =>
    intro _
    by_cases hn : c < f n
    · have hpos : 0 < n := Nat.pos_of_ne_zero fun h => Nat.not_le.2 hn (h ▸ h0)
      obtain ⟨i, hi, h⟩ := ih hpos
      refine ⟨i, Nat.lt_succ_of_lt hi, fun j hj => ?_⟩
      rcases Nat.lt_succ_iff_lt_or_eq.1 hj with hj | rfl
      · exact h j hj
      · exact ⟨fun _ => hi, fun _ => hn⟩
    · refine ⟨n, Nat.lt_succ_self n, fun j hj => ?_⟩
      have : f j ≤ c := Nat.le_trans (hf j n (Nat.le_of_lt_succ hj)) (Nat.le_of_not_lt hn)
      exact ⟨fun h => absurd h (Nat.not_lt.2 this), fun h => absurd hj (Nat.not_lt.2 (Nat.succ_le_of_lt h))⟩

end Unimock
