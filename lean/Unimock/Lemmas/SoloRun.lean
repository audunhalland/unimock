import Unimock.Lemmas.Solo
import Unimock.Lemmas.Actions
/-!
One thread of the interleaving model, scheduled alone until it has finished, makes its calls exactly
as the sequential model does: same outcomes in the same order, same final shared state.

`finish` and `threadStep` both iterate one function, `advance`: the atomic action of the current pause point followed by the
thread-local computation up to the next one. Every `advance` lowers the rank of the pause point, so four steps finish a call
(`finish_some`) and `5·n + 5` steps finish a thread with `n` calls (`soloRun_spec`).
-/
namespace Unimock
variable {α ρ : Type}

/-- the sequential reference: the calls made one after the other through `call` -/
def seqCalls (s : Shared α ρ) : List (MethodInfo × α) → Shared α ρ × List (ThreadOut ρ)
  | [] => (s, [])
  | (m, a) :: rest =>
    let r := call s m a
    let r' := seqCalls r.1 rest
    (r'.1, ThreadOut.ofEval r.2 :: r'.2)

/-- schedule one thread `n` times in a row -/
def soloRun : Nat → Shared α ρ × ThreadSt α ρ → Shared α ρ × ThreadSt α ρ
  | 0, x => x
  | n+1, (s, t) => let r := threadStep s t; soloRun n (r.1, r.2.1)

/-- a pause point inside a call (neither before the first call nor after the last) -/
def Phase.inCall : Phase α ρ → Prop
  | .notStarted => False
  | .finished => False
  | _ => True

/-! ### one atomic step -/

/-- the atomic action of pause point `ph` and the thread-local computation that follows it -/
def advance (s : Shared α ρ) : Phase α ρ → Shared α ρ × Sum (ThreadOut ρ) (Phase α ρ)
  | .atGlobal m a =>
    let s1 := (applyAction s .bumpGlobal).1
    (s1, afterGlobal s1 m a s.nextOrdered)
  | .atPat m pi =>
    let s1 := (applyAction s (.bumpPat m.id pi)).1
    (s1, afterPat s1 m pi (s.patCount m.id pi))
  | .atTake m pi ri v =>
    ((applyAction s (.takeSlot m.id pi ri)).1,
      if s.slotTaken m.id pi ri then .inr (.atPush (.cannotReturnValueMoreThanOnce m pi)) else .inl (.ret v))
  | .atPush e => (s.induce e, .inl (.err e))
  | ph => (s, .inr ph)

theorem finish_succ (n : Nat) (s : Shared α ρ) (ph : Phase α ρ) (h : ph.inCall) :
    finish (n + 1) s (.inr ph) = finish n (advance s ph).1 (advance s ph).2 := by
  cases ph with
  | notStarted => cases h
  | finished => cases h
  | atTake m pi ri v =>
    by_cases ht : s.slotTaken m.id pi ri = true <;> simp only [finish, advance, applyAction, ht, ↓reduceIte]
    cases n <;> rfl
  | atPush e => cases n <;> rfl
  | _ => rfl

theorem threadStep_inCall (s : Shared α ρ) (t : ThreadSt α ρ) (h : t.phase.inCall) :
    threadStep s t =
      ((advance s t.phase).1, settle (advance s t.phase).1 (t.todo.length + 1) t (advance s t.phase).2, t.phase.action) := by
  unfold threadStep
  cases hph : t.phase with
  | notStarted => rw [hph] at h; cases h
  | finished => rw [hph] at h; cases h
  | atTake m pi ri v =>
    by_cases ht : s.slotTaken m.id pi ri = true <;> simp only [advance, applyAction, ht, ↓reduceIte] <;> rfl
  | _ => rfl

theorem uniqueIds_advance (s : Shared α ρ) (ph : Phase α ρ) (h : s.UniqueIds) : (advance s ph).1.UniqueIds := by
  cases ph <;> first | exact h | exact uniqueIds_applyAction s _ h

/-! ### the rank of a pause point: how many atomic actions its call may still perform -/

def Phase.rank : Phase α ρ → Nat
  | .atPush _ => 1
  | .atTake _ _ _ _ => 2
  | .atPat _ _ => 3
  | .atGlobal _ _ => 4
  | .notStarted => 5
  | .finished => 5

/-- `rk x ≤ 4`: `x` is an outcome or a pause point inside a call -/
def rk : Sum (ThreadOut ρ) (Phase α ρ) → Nat
  | .inl _ => 0
  | .inr ph => ph.rank

theorem inCall_iff_rank (ph : Phase α ρ) : ph.inCall ↔ ph.rank ≤ 4 := by
  cases ph <;> simp [Phase.inCall, Phase.rank]

theorem rk_phase (m : MethodInfo) (r : Resolution α ρ) : rk (r.phase m) ≤ 3 := by
  rcases r with o | ⟨pi, p⟩
  · cases o <;> simp [Resolution.phase, rk, Phase.rank]
  · simp [Resolution.phase, rk, Phase.rank]

theorem rk_beginCall (s : Shared α ρ) (m : MethodInfo) (a : α) : rk (beginCall s m a) ≤ 4 := by
  rw [beginCall_eq]
  split
  · simp [rk, Phase.rank]
  · exact Nat.le_succ_of_le (rk_phase m _)

theorem rk_afterGlobal (s : Shared α ρ) (m : MethodInfo) (a : α) (i : Nat) : rk (afterGlobal s m a i) ≤ 3 := by
  cases hf : s.find m.id with
  | none => simp [afterGlobal, hf, rk, Phase.rank]
  | some fm => rw [afterGlobal_eq s m a i fm hf]; exact rk_phase m _

theorem rk_afterPat (s : Shared α ρ) (m : MethodInfo) (pi c : Nat) : rk (afterPat s m pi c) ≤ 2 := by
  unfold afterPat
  repeat' split
  all_goals simp [rk, Phase.rank]

/-- every atomic step brings the call closer to its outcome -/
theorem rk_advance (s : Shared α ρ) (ph : Phase α ρ) (h : ph.rank ≤ 4) : rk (advance s ph).2 < ph.rank := by
  cases ph with
  | atGlobal m a => exact Nat.lt_succ_of_le (rk_afterGlobal _ m a _)
  | atPat m pi => exact Nat.lt_succ_of_le (rk_afterPat _ m pi _)
  | atTake m pi ri v => simp only [advance]; split <;> simp [rk, Phase.rank]
  | atPush e => simp [advance, rk, Phase.rank]
  | _ => simp [Phase.rank] at h

/-! ### `finish` completes a call from any pause point within its rank -/

theorem finish_some (n : Nat) (s : Shared α ρ) (x : Sum (ThreadOut ρ) (Phase α ρ)) (h4 : rk x ≤ 4) (hn : rk x ≤ n) :
    (finish n s x).2.isSome := by
  induction n generalizing s x with
  | zero => cases x with
    | inl o => rfl
    | inr ph => cases ph <;> simp [rk, Phase.rank] at hn
  | succ n ih => cases x with
    | inl o => rfl
    | inr ph =>
      have := rk_advance s ph h4
      rw [finish_succ n s ph ((inCall_iff_rank ph).2 h4)]
      exact ih _ _ (by simp only [rk] at h4; omega) (by simp only [rk] at hn; omega)

/-- once an outcome is reached more fuel changes nothing -/
theorem finish_mono (n : Nat) (s : Shared α ρ) (x : Sum (ThreadOut ρ) (Phase α ρ)) (h : (finish n s x).2.isSome) :
    finish (n + 1) s x = finish n s x := by
  induction n generalizing s x with
  | zero => cases x with
    | inl o => rfl
    | inr ph => cases h
  | succ n ih => cases x with
    | inl o => rfl
    | inr ph =>
      by_cases hin : ph.inCall
      · rw [finish_succ _ s ph hin] at h ⊢; rw [finish_succ _ s ph hin]; exact ih _ _ h
      · cases ph <;> first | exact absurd trivial hin | cases h

theorem finish_atPush (k : Nat) (s : Shared α ρ) (e : MockError) :
    finish (k + 1) s (.inr (.atPush e)) = (s.induce e, some (.err e)) := rfl

theorem finish_inCall_some (s : Shared α ρ) (ph : Phase α ρ) (h : ph.inCall) : (finish 4 s (.inr ph)).2.isSome :=
  finish_some 4 s _ ((inCall_iff_rank ph).1 h) ((inCall_iff_rank ph).1 h)

/-! ### what remains of a thread, in the sequential model -/

/-- what a thread about to continue with `x` still produces, and the state it leaves, if nobody interferes -/
def remainingOf (s : Shared α ρ) (todo : List (MethodInfo × α)) (x : Sum (ThreadOut ρ) (Phase α ρ)) :
    Shared α ρ × List (ThreadOut ρ) :=
  match finish 4 s x with
  | (s1, some o) => let r := seqCalls s1 todo; (r.1, o :: r.2)
  | (s1, none) => (s1, [])

/-- the outcomes a thread still has to produce and the state it leaves, if nobody interferes -/
def remaining (s : Shared α ρ) (t : ThreadSt α ρ) : Shared α ρ × List (ThreadOut ρ) :=
  match t.phase with
  | .finished => (s, [])
  | .notStarted => seqCalls s t.todo
  | ph =>
    match finish 4 s (.inr ph) with
    | (s1, some o) => let r := seqCalls s1 t.todo; (r.1, o :: r.2)
    | (s1, none) => (s1, [])

theorem remaining_inCall (s : Shared α ρ) (t : ThreadSt α ρ) (h : t.phase.inCall) :
    remaining s t = remainingOf s t.todo (.inr t.phase) := by
  unfold remaining remainingOf
  cases hp : t.phase <;> first | rfl | (rw [hp] at h; cases h)

/-- a call about to be made remains to be made -/
theorem remainingOf_beginCall (s : Shared α ρ) (hu : s.UniqueIds) (m : MethodInfo) (a : α) (rest : List (MethodInfo × α)) :
    remainingOf s rest (beginCall s m a) = seqCalls s ((m, a) :: rest) := by
  simp only [remainingOf, finish_begin_eq_call s hu m a, seqCalls]

/-- settling a thread after a thread-local result: it records outcomes and walks on to the next pause;
    sequentially this changes nothing about what the thread will have produced in the end -/
theorem settle_remaining (s : Shared α ρ) (hu : s.UniqueIds) (fuel : Nat) (t : ThreadSt α ρ)
    (x : Sum (ThreadOut ρ) (Phase α ρ)) (hfuel : t.todo.length + 1 ≤ fuel) (hx : rk x ≤ 4) :
    (settle s fuel t x).outs ++ (remaining s (settle s fuel t x)).2 = t.outs ++ (remainingOf s t.todo x).2 ∧
      (remaining s (settle s fuel t x)).1 = (remainingOf s t.todo x).1 := by
  induction fuel generalizing t x with
  | zero => omega
  | succ fuel ih =>
    cases x with
    | inr ph =>
      simp only [settle]
      rw [remaining_inCall s _ ((inCall_iff_rank ph).2 hx)]
      exact ⟨rfl, rfl⟩
    | inl o =>
      simp only [settle]
      cases htodo : t.todo with
      | nil => simp [remaining, remainingOf, finish, seqCalls]
      | cons c rest =>
        obtain ⟨m, a⟩ := c
        have := ih { t with outs := t.outs ++ [o], todo := rest } (beginCall s m a)
          (by rw [htodo] at hfuel; simpa using hfuel) (rk_beginCall s m a)
        simp only [remainingOf_beginCall s hu] at this
        simp only [this.1, this.2, remainingOf, finish, List.append_assoc, List.singleton_append, and_self]

/-- the state before an atomic action and the state after it have the same future -/
theorem remainingOf_advance (s : Shared α ρ) (ph : Phase α ρ) (todo : List (MethodInfo × α)) (h : ph.rank ≤ 4) :
    remainingOf (advance s ph).1 todo (advance s ph).2 = remainingOf s todo (.inr ph) := by
  have hlt := rk_advance s ph h
  unfold remainingOf
  rw [finish_succ 3 s ph ((inCall_iff_rank ph).2 h), finish_mono 3 _ _ (finish_some 3 _ _ (by omega) (by omega))]

/-- **one scheduling step of a thread running alone changes nothing about what it will have done in
    the end** (outcomes so far ++ outcomes still to come, and the final shared state) -/
theorem threadStep_remaining (s : Shared α ρ) (hu : s.UniqueIds) (t : ThreadSt α ρ) :
    (threadStep s t).2.1.outs ++ (remaining (threadStep s t).1 (threadStep s t).2.1).2 = t.outs ++ (remaining s t).2 ∧
      (remaining (threadStep s t).1 (threadStep s t).2.1).1 = (remaining s t).1 ∧ (threadStep s t).1.UniqueIds := by
  by_cases hin : t.phase.inCall
  · have h4 := (inCall_iff_rank _).1 hin
    have hu1 := uniqueIds_advance s t.phase hu
    have hlt := rk_advance s t.phase h4
    have := settle_remaining _ hu1 (t.todo.length + 1) t (advance s t.phase).2 (Nat.le_refl _) (by omega)
    rw [threadStep_inCall s t hin, remaining_inCall s t hin, ← remainingOf_advance s t.phase t.todo h4]
    exact ⟨this.1, this.2, hu1⟩
  · unfold threadStep
    cases hph : t.phase with
    | finished => exact ⟨rfl, rfl, hu⟩
    | notStarted =>
      cases htodo : t.todo with
      | nil => simp [remaining, hph, htodo, seqCalls, hu]
      | cons c rest =>
        obtain ⟨m, a⟩ := c
        have := settle_remaining s hu (rest.length + 1 + 1) { todo := rest, phase := .notStarted, outs := t.outs, tags := t.tags }
          (beginCall s m a) (by simp) (rk_beginCall s m a)
        have hr : remaining s t = seqCalls s ((m, a) :: rest) := by simp only [remaining, hph, htodo]
        rw [remainingOf_beginCall s hu] at this
        rw [hr]
        exact ⟨this.1, this.2, hu⟩
    | _ => rw [hph] at hin; exact absurd trivial hin

/-! ### the thread finishes: a measure that every step decreases -/

def ThreadSt.measure (t : ThreadSt α ρ) : Nat :=
  match t.phase with
  | .finished => 0
  | ph => 5 * t.todo.length + ph.rank

theorem measure_le (t : ThreadSt α ρ) : t.measure ≤ 5 * t.todo.length + t.phase.rank := by
  unfold ThreadSt.measure; cases t.phase <;> simp

theorem measure_inCall (t : ThreadSt α ρ) (h : t.phase.inCall) : t.measure = 5 * t.todo.length + t.phase.rank := by
  unfold ThreadSt.measure; cases hph : t.phase <;> first | rfl | (rw [hph] at h; cases h)

theorem settle_measure (s : Shared α ρ) (fuel : Nat) (t : ThreadSt α ρ) (x : Sum (ThreadOut ρ) (Phase α ρ)) :
    (settle s fuel t x).measure ≤ 5 * t.todo.length + rk x := by
  induction fuel generalizing t x with
  | zero =>
    cases x with
    | inr ph => exact measure_le _
    | inl o => simp [settle, ThreadSt.measure]
  | succ fuel ih =>
    cases x with
    | inr ph => exact measure_le _
    | inl o =>
      simp only [settle]
      cases htodo : t.todo with
      | nil => simp [ThreadSt.measure]
      | cons c rest =>
        obtain ⟨m, a⟩ := c
        have := ih { t with outs := t.outs ++ [o], todo := rest } (beginCall s m a)
        have := rk_beginCall s m a
        simp only [List.length_cons] at *
        omega

theorem threadStep_measure (s : Shared α ρ) (t : ThreadSt α ρ) (h : t.isFinished = false) :
    (threadStep s t).2.1.measure < t.measure := by
  by_cases hin : t.phase.inCall
  · have h4 := (inCall_iff_rank _).1 hin
    have := settle_measure (advance s t.phase).1 (t.todo.length + 1) t (advance s t.phase).2
    have := rk_advance s t.phase h4
    rw [threadStep_inCall s t hin, measure_inCall t hin]
    dsimp only
    omega
  · unfold threadStep
    cases hph : t.phase with
    | finished => simp [ThreadSt.isFinished, hph] at h
    | notStarted =>
      cases htodo : t.todo with
      | nil => simp [ThreadSt.measure, hph, Phase.rank]
      | cons c rest =>
        obtain ⟨m, a⟩ := c
        have := settle_measure s (rest.length + 1 + 1) { t with todo := rest } (beginCall s m a)
        have := rk_beginCall s m a
        simp only [ThreadSt.measure, hph, htodo, List.length_cons, Phase.rank] at *
        omega
    | _ => rw [hph] at hin; exact absurd trivial hin

theorem soloRun_finished (n : Nat) (s : Shared α ρ) (t : ThreadSt α ρ) (h : t.phase = .finished) :
    soloRun n (s, t) = (s, t) := by
  induction n with
  | zero => rfl
  | succ n ih => simpa only [soloRun, threadStep, h] using ih

theorem soloRun_spec (n : Nat) (s : Shared α ρ) (t : ThreadSt α ρ) (hu : s.UniqueIds) (hn : t.measure ≤ n) :
    (soloRun n (s, t)).2.isFinished = true ∧ (soloRun n (s, t)).2.outs = t.outs ++ (remaining s t).2 ∧
      (soloRun n (s, t)).1 = (remaining s t).1 := by
  induction n generalizing s t with
  | zero =>
    have hph : t.phase = .finished := by
      unfold ThreadSt.measure at hn; cases h : t.phase <;> simp_all [Phase.rank]
    simp [soloRun, ThreadSt.isFinished, remaining, hph]
  | succ n ih =>
    by_cases hph : t.phase = .finished
    · simp [soloRun_finished _ s t hph, ThreadSt.isFinished, remaining, hph]
    · have hdec := threadStep_measure s t (by unfold ThreadSt.isFinished; split <;> simp_all)
      have hinv := threadStep_remaining s hu t
      have := ih (threadStep s t).1 (threadStep s t).2.1 hinv.2.2 (by omega)
      rw [soloRun, this.2.1, this.2.2, hinv.1, hinv.2.1]
      exact ⟨this.1, rfl, rfl⟩

end Unimock
