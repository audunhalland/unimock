import Unimock.Lemmas.State
import Unimock.Model.Assemble
/-!
`Sink::push` of the assembler, seen through lookups by method id.

`push_eq` is `Asm.push` without the intermediate pair of `newPattern`; everything else about a push is stated through what a
lookup finds afterwards (`push_find`), the running index (`push_cur`), the ids in the table (`push_ids`) and when it fails
(`push_error_iff`), so that no other proof unfolds `Asm.push`.
-/
namespace Unimock
variable {α ρ : Type}

theorem find?_append_one {β : Type} (l : List β) (x : β) (p : β → Bool) :
    (l ++ [x]).find? p = (l.find? p).or (if p x then some x else none) := by
  rw [List.find?_append, List.find?_singleton]

theorem newPattern_mockers (a : Asm α ρ) (b : Builder α ρ) : (newPattern a b).1.mockers = a.mockers := by
  unfold newPattern; split <;> rfl

theorem newPattern_cur (a : Asm α ρ) (b : Builder α ρ) :
    (newPattern a b).1.cur = if b.mode = .inOrder then a.cur + exactCalls b else a.cur := by
  unfold newPattern; split <;> rfl

/-- the table entry of the pushed terminal's method after the push: the found entry with the new pattern appended, or a new entry -/
def pushedEntry (a : Asm α ρ) (t : Terminal α ρ) : FnMocker α ρ :=
  match a.mockers.find? (·.info.id = t.info.id) with
  | some fm => { fm with pats := fm.pats ++ [(newPattern a t.b).2] }
  | none => ⟨t.info, t.b.mode, [(newPattern a t.b).2]⟩

theorem push_eq (a : Asm α ρ) (t : Terminal α ρ) :
    a.push t =
      if t.b.outputError then .error .outputError else
      match a.mockers.find? (·.info.id = t.info.id) with
      | some fm =>
        if fm.mode ≠ t.b.mode then .error (.modeConflict fm.info fm.mode t.b.mode)
        else .ok ⟨a.mockers.map fun m => if m.info.id = t.info.id then { m with pats := m.pats ++ [(newPattern a t.b).2] } else m,
          (newPattern a t.b).1.cur⟩
      | none => .ok ⟨a.mockers ++ [⟨t.info, t.b.mode, [(newPattern a t.b).2]⟩], (newPattern a t.b).1.cur⟩ := by
  unfold Asm.push
  simp only [newPattern_mockers]
  rfl

/-- when does `push` fail, in terms of lookups only -/
theorem push_error_iff (a : Asm α ρ) (t : Terminal α ρ) :
    (∃ e, a.push t = .error e) ↔
      (t.b.outputError = true ∨ ∃ fm, a.mockers.find? (·.info.id = t.info.id) = some fm ∧ fm.mode ≠ t.b.mode) := by
  rw [push_eq]
  cases t.b.outputError with
  | true => simp
  | false =>
    cases a.mockers.find? (·.info.id = t.info.id) with
    | none => simp
    | some fm => by_cases hm : fm.mode = t.b.mode <;> simp [hm]

/-- a successful push: the new table and running index -/
theorem push_ok {a a' : Asm α ρ} {t : Terminal α ρ} (h : a.push t = .ok a') :
    a' = ⟨match a.mockers.find? (·.info.id = t.info.id) with
          | some _ => a.mockers.map fun m => if m.info.id = t.info.id then { m with pats := m.pats ++ [(newPattern a t.b).2] } else m
          | none => a.mockers ++ [⟨t.info, t.b.mode, [(newPattern a t.b).2]⟩],
        (newPattern a t.b).1.cur⟩ := by
  rw [push_eq] at h
  split at h
  · cases h
  · split at h
    · split at h <;> cases h; rfl
    · cases h; rfl

theorem push_cur (a a' : Asm α ρ) (t : Terminal α ρ) (h : a.push t = .ok a') :
    a'.cur = if t.b.mode = .inOrder then a.cur + exactCalls t.b else a.cur := by
  rw [push_ok h, newPattern_cur]

/-- what `push` does to the lookup of every id (when it succeeds) -/
theorem push_find (a a' : Asm α ρ) (t : Terminal α ρ) (h : a.push t = .ok a') (id : Nat) :
    a'.mockers.find? (·.info.id = id) =
      if id = t.info.id then some (pushedEntry a t) else a.mockers.find? (·.info.id = id) := by
  rw [push_ok h]
  unfold pushedEntry
  cases hf : a.mockers.find? (·.info.id = t.info.id) with
  | none =>
    simp only [find?_append_one, decide_eq_true_eq, eq_comm (a := id)]
    split
    · next hid => rw [← hid, hf]; rfl
    · rw [Option.or_none]
  | some fm =>
    simp only
    rw [find?_map_upd a.mockers t.info.id id (fun m => { m with pats := m.pats ++ [(newPattern a t.b).2] }) fun _ => rfl]
    split
    · next hid => rw [hid, hf]; simp [show fm.info.id = t.info.id by simpa using List.find?_some hf]
    · next hid =>
      cases hfi : a.mockers.find? (·.info.id = id) with
      | none => rfl
      | some m => simp [show m.info.id = id by simpa using List.find?_some hfi, hid]

/-- the ids in the table after a push: as before, plus the pushed method's if it is new -/
theorem push_ids (a a' : Asm α ρ) (t : Terminal α ρ) (h : a.push t = .ok a') :
    a'.mockers.map (·.info.id) =
      a.mockers.map (·.info.id) ++ if (a.mockers.find? (·.info.id = t.info.id)).isSome then [] else [t.info.id] := by
  rw [push_ok h]
  cases a.mockers.find? (·.info.id = t.info.id) with
  | none => simp
  | some fm => simp [map_id_upd a.mockers t.info.id (fun m => { m with pats := m.pats ++ [(newPattern a t.b).2] }) fun _ => rfl]

/-! ### every assembled mock has pairwise distinct method ids -/

theorem push_uniqueIds (a a' : Asm α ρ) (t : Terminal α ρ) (h : a.push t = .ok a')
    (hu : (a.mockers.map (·.info.id)).Nodup) : (a'.mockers.map (·.info.id)).Nodup := by
  rw [push_ids a a' t h]
  cases hf : a.mockers.find? (·.info.id = t.info.id) with
  | some fm => simpa using hu
  | none =>
    refine List.nodup_append.2 ⟨hu, by simp, ?_⟩
    rintro x hx y hy rfl
    obtain ⟨m, hm, rfl⟩ := List.mem_map.1 hx
    simpa [List.mem_singleton.1 hy] using List.find?_eq_none.1 hf m hm

/-- what every successful push preserves holds of every assembled table -/
theorem assembleList_inv {P : Asm α ρ → Prop} (hpush : ∀ a a' t, a.push t = .ok a' → P a → P a') (a a' : Asm α ρ)
    (items : List (Except AsmError (Terminal α ρ))) (h : assembleList a items = .ok a') (ha : P a) : P a' := by
  induction items generalizing a with
  | nil => cases h; exact ha
  | cons x xs ih =>
    cases x with
    | error e => cases h
    | ok t =>
      simp only [assembleList] at h
      cases hp : a.push t with
      | error e => rw [hp] at h; cases h
      | ok a1 => rw [hp] at h; exact ih a1 h (hpush a a1 t hp ha)

theorem newMock_inv {P : Asm α ρ → Prop} (h0 : P {}) (hpush : ∀ a a' t, a.push t = .ok a' → P a → P a')
    {fb : Fallback} {c : ClauseTree α ρ} {s : Shared α ρ} (h : newMock fb c = .ok s) :
    ∃ a, P a ∧ s = ⟨fb, a.mockers, 0, []⟩ := by
  unfold newMock at h
  cases ha : assembleList ({} : Asm α ρ) (flatten c) with
  | error e => rw [ha] at h; cases h
  | ok a =>
    rw [ha] at h
    cases h
    exact ⟨a, assembleList_inv hpush {} a _ ha h0, rfl⟩

theorem newMock_uniqueIds (fb : Fallback) (c : ClauseTree α ρ) (s : Shared α ρ) (h : newMock fb c = .ok s) :
    s.UniqueIds := by
  obtain ⟨a, ha, rfl⟩ := newMock_inv (P := fun a => (a.mockers.map (·.info.id)).Nodup) (by simp)
    (fun a a' t => push_uniqueIds a a' t) h
  exact ha

end Unimock
