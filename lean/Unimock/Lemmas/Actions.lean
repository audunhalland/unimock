import Unimock.Lemmas.State
/-! Effect of each atomic action on the observables (pattern counters, ordered index, slots, log). -/
namespace Unimock
variable {α ρ : Type}

/-- the pattern `(id, pi)` exists in the table -/
def Shared.hasPat (s : Shared α ρ) (id pi : Nat) : Prop :=
  ∃ fm p, s.find id = some fm ∧ fm.pats[pi]? = some p

theorem hasPat_iff (s : Shared α ρ) (id pi : Nat) : s.hasPat id pi ↔ ∃ p, s.pat? id pi = some p := by
  unfold Shared.hasPat Shared.pat?
  cases s.find id <;> simp

theorem hasPat_mapPat (s : Shared α ρ) (id pi id' pi' : Nat) (f : Pattern α ρ → Pattern α ρ)
    (h : s.hasPat id' pi') : (s.mapPat id pi f).hasPat id' pi' := by
  rw [hasPat_iff] at h ⊢
  obtain ⟨p, hp⟩ := h
  rw [pat?_mapPat, hp]
  split <;> simp

/-- every action preserves the existence of every pattern -/
theorem hasPat_applyAction (s : Shared α ρ) (a : Action) (id pi : Nat) (h : s.hasPat id pi) :
    (applyAction s a).1.hasPat id pi := by
  cases a with
  | bumpGlobal => exact h
  | bumpPat id' pi' => exact hasPat_mapPat s id' pi' id pi _ h
  | takeSlot id' pi' ri =>
    simp only [applyAction]
    split
    · exact h
    · exact hasPat_mapPat s id' pi' id pi _ h
  | pushReason e => exact h

theorem uniqueIds_applyAction (s : Shared α ρ) (a : Action) (h : s.UniqueIds) : (applyAction s a).1.UniqueIds := by
  cases a with
  | bumpGlobal => exact h
  | bumpPat id pi => exact uniqueIds_mapPat s id pi _ h
  | takeSlot id pi ri =>
    simp only [applyAction]
    split
    · exact h
    · exact uniqueIds_mapPat s id pi _ h
  | pushReason e => exact h

end Unimock
