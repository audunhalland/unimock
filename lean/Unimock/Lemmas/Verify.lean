import Unimock.Model.Core
/-! Lemmas about verification (`CallCounter::verify`, `FnMocker::verify`, tail of `teardown`). -/
namespace Unimock
variable {α ρ : Type}

/-- a pattern's expectation is met -/
def PatOk (p : Pattern α ρ) : Prop :=
  match p.ex with
  | .exact => p.count = p.min
  | .atLeast => p.min ≤ p.count
  | .atLeastPlusOne => p.min + 1 ≤ p.count

theorem countOk_iff (p : Pattern α ρ) : countOk p = true ↔ PatOk p := by
  unfold countOk PatOk lowerBound
  cases p.ex <;> simp

theorem verifyPat_nil_iff (m : MethodInfo) (i : Nat) (p : Pattern α ρ) :
    verifyPat m i p = [] ↔ PatOk p := by
  unfold verifyPat
  rw [← countOk_iff]
  cases countOk p <;> simp

theorem verifyMocker_nil_iff (fm : FnMocker α ρ) :
    verifyMocker fm = [] ↔ (∀ p ∈ fm.pats, PatOk p) ∧ 0 < (fm.pats.map (·.count)).sum := by
  unfold verifyMocker
  rw [List.append_eq_nil_iff, List.flatMap_eq_nil_iff, Nat.pos_iff_ne_zero]
  refine and_congr ?_ ?_
  · -- a pattern's verdict does not depend on its number, and the numbered list read without the numbers is the list
    simp only [verifyPat_nil_iff]
    exact (List.forall_mem_map (f := Prod.fst) (P := PatOk)).symm.trans (by rw [List.zipIdx_map_fst])
  · split <;> simp [*]

/-- the error line produced for a violated pattern -/
def patLine (m : MethodInfo) (pi : Nat × Pattern α ρ) : MockError :=
  .failedVerification m pi.1 (pi.2.ex != .exact) (lowerBound pi.2.min pi.2.ex) pi.2.count

theorem flatMap_verifyPat (m : MethodInfo) (l : List (Pattern α ρ × Nat)) :
    (l.flatMap fun x => verifyPat m x.2 x.1) =
      (l.filter fun x => !countOk x.1).map fun x => patLine m (x.2, x.1) := by
  induction l with
  | nil => rfl
  | cons x t ih =>
    rw [List.flatMap_cons, ih, List.filter_cons]
    unfold verifyPat
    cases countOk x.1 <;> rfl

end Unimock
