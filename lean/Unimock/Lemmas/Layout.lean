import Unimock.Lemmas.Assemble
/-! Assembly is insensitive to the relative order of clauses of different methods (as long as the
    relative order of ordered clauses is kept): pushes of such terminals commute up to the order in
    which the method table lists its entries. -/
namespace Unimock
variable {α ρ : Type}

/-- two assembler states denote the same mock: same running index, and every method id is looked
    up to the same entry (the order of entries in the table is irrelevant: the real table is a
    `BTreeMap<TypeId, _>`) -/
def AsmEquiv (a b : Asm α ρ) : Prop :=
  a.cur = b.cur ∧ ∀ id, a.mockers.find? (·.info.id = id) = b.mockers.find? (·.info.id = id)

def ResEquiv : Except AsmError (Asm α ρ) → Except AsmError (Asm α ρ) → Prop
  | .ok a, .ok b => AsmEquiv a b
  | .error _, .error _ => True
  | _, _ => False

theorem AsmEquiv.refl (a : Asm α ρ) : AsmEquiv a a := ⟨rfl, fun _ => rfl⟩
theorem ResEquiv.refl (r : Except AsmError (Asm α ρ)) : ResEquiv r r := by
  cases r with
  | ok a => exact AsmEquiv.refl a
  | error e => trivial

/-- two results are equivalent if they fail together and, when both succeed, succeed with equivalent tables -/
theorem ResEquiv.of_iff {x y : Except AsmError (Asm α ρ)} (herr : (∃ e, x = .error e) ↔ ∃ e, y = .error e)
    (hok : ∀ a b, x = .ok a → y = .ok b → AsmEquiv a b) : ResEquiv x y := by
  cases x with
  | error e =>
    obtain ⟨e', rfl⟩ := herr.1 ⟨e, rfl⟩
    trivial
  | ok a =>
    cases y with
    | error e => obtain ⟨_, h⟩ := herr.2 ⟨e, rfl⟩; cases h
    | ok b => exact hok a b rfl rfl

theorem newPattern_congr (a b : Asm α ρ) (h : a.cur = b.cur) (bld : Builder α ρ) :
    (newPattern a bld).2 = (newPattern b bld).2 := by
  unfold newPattern; rw [h]; split <;> rfl

theorem pushedEntry_congr (a b : Asm α ρ) (h : AsmEquiv a b) (t : Terminal α ρ) : pushedEntry a t = pushedEntry b t := by
  unfold pushedEntry
  rw [h.2, newPattern_congr a b h.1]

/-- **`push` respects equivalence** -/
theorem push_congr (a b : Asm α ρ) (h : AsmEquiv a b) (t : Terminal α ρ) : ResEquiv (a.push t) (b.push t) := by
  refine .of_iff (by rw [push_error_iff, push_error_iff, h.2]) fun a' b' ha hb => ⟨?_, fun id => ?_⟩
  · rw [push_cur a a' t ha, push_cur b b' t hb, h.1]
  · rw [push_find a a' t ha id, push_find b b' t hb id, h.2, pushedEntry_congr a b h]

theorem assembleList_congr (a b : Asm α ρ) (h : AsmEquiv a b) (items : List (Except AsmError (Terminal α ρ))) :
    ResEquiv (assembleList a items) (assembleList b items) := by
  induction items generalizing a b with
  | nil => exact h
  | cons it items ih =>
    cases it with
    | error e => simp [assembleList, ResEquiv]
    | ok t =>
      simp only [assembleList]
      have := push_congr a b h t
      cases ha : a.push t with
      | error e => cases hb : b.push t with
        | error e' => simp [ResEquiv]
        | ok b' => rw [ha, hb] at this; exact this.elim
      | ok a' => cases hb : b.push t with
        | error e' => rw [ha, hb] at this; exact this.elim
        | ok b' => rw [ha, hb] at this; exact ih a' b' this

/-- equivalent intermediate results stay equivalent when assembly goes on -/
theorem ResEquiv.assembleList {x y : Except AsmError (Asm α ρ)} (items : List (Except AsmError (Terminal α ρ))) :
    ResEquiv x y →
      ResEquiv (match x with | .error e => .error e | .ok a => assembleList a items)
        (match y with | .error e => .error e | .ok a => assembleList a items) := by
  intro h
  cases x <;> cases y <;> first | trivial | exact h.elim | exact assembleList_congr _ _ h items

/-- two terminals may be exchanged: different methods, and not both ordered -/
def Swappable (t1 t2 : Terminal α ρ) : Prop :=
  t1.info.id ≠ t2.info.id ∧ ¬ (t1.b.mode = .inOrder ∧ t2.b.mode = .inOrder)

def push2 (a : Asm α ρ) (t1 t2 : Terminal α ρ) : Except AsmError (Asm α ρ) :=
  match a.push t1 with
  | .error e => .error e
  | .ok a1 => a1.push t2

theorem assembleList_cons_cons (a : Asm α ρ) (t1 t2 : Terminal α ρ) (rest : List (Except AsmError (Terminal α ρ))) :
    assembleList a (.ok t1 :: .ok t2 :: rest) =
      match push2 a t1 t2 with
      | .error e => .error e
      | .ok a' => assembleList a' rest := by
  unfold push2
  simp only [assembleList]
  cases a.push t1 with
  | error e => rfl
  | ok a1 => cases a1.push t2 <;> rfl

/-- after a push of another method's terminal, not both ordered: `t2` fails as before, and meets the same entry and index -/
theorem push_after (a a1 : Asm α ρ) (t1 t2 : Terminal α ρ) (hs : Swappable t1 t2) (h1 : a.push t1 = .ok a1) :
    ((∃ e, a1.push t2 = .error e) ↔ ∃ e, a.push t2 = .error e) ∧ pushedEntry a1 t2 = pushedEntry a t2 := by
  have hid : ¬ t2.info.id = t1.info.id := fun h => hs.1 h.symm
  have hf := push_find a a1 t1 h1 t2.info.id
  rw [if_neg hid] at hf
  refine ⟨by rw [push_error_iff, push_error_iff, hf], ?_⟩
  -- an ordered `t2` sees the same running index: `t1` is then unordered and has not moved it
  have hnp : (newPattern a1 t2.b).2 = (newPattern a t2.b).2 := by
    unfold newPattern
    by_cases m2 : t2.b.mode = .inOrder
    · have hc := push_cur a a1 t1 h1
      rw [if_neg fun m1 => hs.2 ⟨m1, m2⟩] at hc
      simp only [m2, ↓reduceIte, hc]
    · simp only [m2, ↓reduceIte]
  unfold pushedEntry
  rw [hf, hnp]

theorem push2_ok {a a12 : Asm α ρ} {t1 t2 : Terminal α ρ} (h : push2 a t1 t2 = .ok a12) :
    ∃ a1, a.push t1 = .ok a1 ∧ a1.push t2 = .ok a12 := by
  unfold push2 at h
  cases h1 : a.push t1 with
  | error e => rw [h1] at h; cases h
  | ok a1 => rw [h1] at h; exact ⟨a1, rfl, h⟩

theorem push2_error_iff (a : Asm α ρ) (t1 t2 : Terminal α ρ) (hs : Swappable t1 t2) :
    (∃ e, push2 a t1 t2 = .error e) ↔ (∃ e, a.push t1 = .error e) ∨ ∃ e, a.push t2 = .error e := by
  unfold push2
  cases h1 : a.push t1 with
  | error e => simp
  | ok a1 => simp only [(push_after a a1 t1 t2 hs h1).1]; simp

/-- **pushes of swappable terminals commute** (up to table order; if either order fails, both fail) -/
theorem push_comm (a : Asm α ρ) (t1 t2 : Terminal α ρ) (hs : Swappable t1 t2) :
    ResEquiv (push2 a t1 t2) (push2 a t2 t1) := by
  have hs' : Swappable t2 t1 := ⟨fun h => hs.1 h.symm, fun h => hs.2 ⟨h.2, h.1⟩⟩
  refine .of_iff (by rw [push2_error_iff a t1 t2 hs, push2_error_iff a t2 t1 hs', or_comm]) fun a12 a21 h12 h21 => ?_
  obtain ⟨a1, h1, h12⟩ := push2_ok h12
  obtain ⟨a2, h2, h21⟩ := push2_ok h21
  refine ⟨?_, fun id => ?_⟩
  · rw [push_cur _ _ _ h12, push_cur _ _ _ h1, push_cur _ _ _ h21, push_cur _ _ _ h2]
    split <;> split <;> simp only [Nat.add_right_comm]
  · rw [push_find _ _ _ h12, push_find _ _ _ h1, push_find _ _ _ h21, push_find _ _ _ h2,
      (push_after a a1 t1 t2 hs h1).2, (push_after a a2 t2 t1 hs' h2).2]
    by_cases i1 : id = t1.info.id
    · rw [if_pos i1, if_pos i1, if_neg (i1 ▸ hs.1)]
    · rw [if_neg i1, if_neg i1]

end Unimock
