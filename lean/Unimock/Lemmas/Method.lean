import Unimock.Model.Method
/-!
The defining equations of `runProg` as rewriting lemmas (those of `callMethod` are `C07_continuations`). `callMethod` and
`runProg` are one structural recursion on the fuel, which `whnf` unfolds slowly and whose generated equation lemmas are
slow to instantiate; proofs about the pair go by induction on the fuel and rewrite with these.
-/
namespace Unimock
variable {α ρ : Type} (env : Env α ρ) (fuel lvl : Nat) (s : Shared α ρ)

theorem runProg_done (r : Option ρ) :
    runProg env fuel lvl s (.done r) = ⟨s, [], match r with | some v => .ret v | none => .userPanic, 0, 0⟩ := by
  cases r <;> cases fuel <;> rfl

theorem runProg_log (e : LogEntry α) (k : Prog α ρ) :
    runProg env (fuel + 1) lvl s (.log e k) =
      { runProg env fuel lvl s k with log := e :: (runProg env fuel lvl s k).log } := rfl

theorem runProg_park (k : Prog α ρ) :
    runProg env (fuel + 1) lvl s (.park k) =
      { runProg env fuel lvl s k with parked := (runProg env fuel lvl s k).parked + 1 } := rfl

theorem runProg_call (m : MethodInfo) (a : α) (k : ρ → Prog α ρ) :
    runProg env (fuel + 1) lvl s (.call m a k) =
      let r := callMethod env fuel lvl s m a
      match r.out with
      | .ret v =>
        let r2 := runProg env fuel lvl r.shared (k v)
        { r2 with log := r.log ++ r2.log, helperDepth := max r.helperDepth r2.helperDepth, parked := r.parked + r2.parked }
      | _ => r := rfl

end Unimock
