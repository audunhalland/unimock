import Unimock.Model.Typestate
/-! Facts about the builder type-state used by C12 and C14. The state and call types are finite, so
    every single-step fact is decided over the complete tables `allSt × allCall`. -/
namespace Unimock.Typestate

def allOrd : List Ord := [.inOrder, .anyOrder]
def allSt : List St :=
  allOrd.flatMap fun o =>
    [.defineResponse o, .defineMulti o, .quantifyRV o true, .quantifyRV o false, .quantify o,
     .quantified o .exact, .quantified o .atLeast]
def allCall : List Call := [.returns true, .returns false, .other, .once, .nTimes, .atLeastTimes, .then_]

theorem mem_allSt (s : St) : s ∈ allSt := by
  cases s with
  | defineResponse o => cases o <;> decide
  | defineMulti o => cases o <;> decide
  | quantifyRV o b => cases o <;> cases b <;> decide
  | quantify o => cases o <;> decide
  | quantified o r => cases o <;> cases r <;> decide

theorem mem_allCall (c : Call) : c ∈ allCall := by
  cases c with
  | returns b => cases b <;> decide
  | _ => decide

/-- lift a decided table fact to all states and calls -/
theorem forall_step {P : St → Call → Prop} [∀ s c, Decidable (P s c)]
    (h : ∀ s ∈ allSt, ∀ c ∈ allCall, P s c) (s : St) (c : Call) : P s c :=
  h s (mem_allSt s) c (mem_allCall c)

/-- a fact about every accepted call, decided over the 14 × 7 table -/
theorem step_all (Q : St → Call → St → Bool) (h : ∀ s ∈ allSt, ∀ c ∈ allCall, (step s c).all (Q s c) = true)
    {s s' : St} {c : Call} (hs : step s c = some s') : Q s c s' = true := by
  have := forall_step (P := fun s c => (step s c).all (Q s c) = true) h s c
  rwa [hs] at this

theorem step_ord (s s' : St) (c : Call) (h : step s c = some s') : s'.ord = s.ord := by
  simpa using step_all (fun s _ s' => s'.ord == s.ord) (by decide +kernel) h

theorem step_atLeast_anyOrder (s s' : St) (h : step s .atLeastTimes = some s') : s.ord = .anyOrder := by
  simpa using step_all (fun s c _ => c != .atLeastTimes || s.ord == .anyOrder) (by decide +kernel) h

theorem step_not_defineResponse (s : St) (c : Call) (o : Ord) : step s c ≠ some (.defineResponse o) := by
  intro h; simpa [St.tag] using step_all (fun _ _ s' => s'.tag != 0) (by decide +kernel) h

theorem step_returns_nonclone (s s' : St) (h : step s (.returns false) = some s') :
    ∃ o, s = .defineResponse o ∧ s' = .quantifyRV o false := by
  have := step_all (fun s c s' => c != .returns false || (s == .defineResponse s.ord && s' == .quantifyRV s.ord false))
    (by decide +kernel) h
  exact ⟨s.ord, by simpa using this⟩

theorem step_from_quantifyRV_nonclone (o : Ord) (c : Call) (s' : St) (h : step (.quantifyRV o false) c = some s') :
    c = .once := by
  simpa [St.ord] using step_all (fun s c _ => s != .quantifyRV s.ord false || c == .once) (by decide +kernel) h

theorem step_then (s s' : St) (h : step s .then_ = some s') : s = .quantified s.ord .exact := by
  simpa using step_all (fun s c _ => c != .then_ || s == .quantified s.ord .exact) (by decide +kernel) h

theorem step_to_exact (s : St) (c : Call) (o : Ord) (h : step s c = some (.quantified o .exact)) :
    c = .once ∨ c = .nTimes := by
  simpa [St.ord] using step_all (fun _ c s' => s' != .quantified s'.ord .exact || c == .once || c == .nTimes) (by decide +kernel) h

theorem run_cons (s : St) (c : Call) (cs : List Call) :
    run s (c :: cs) = (step s c).bind fun s' => run s' cs := by
  simp only [run]; cases step s c <;> rfl

theorem run_append (s : St) (xs ys : List Call) : run s (xs ++ ys) = (run s xs).bind (run · ys) := by
  induction xs generalizing s with
  | nil => rfl
  | cons c xs ih => rw [List.cons_append, run_cons, run_cons]; cases step s c <;> simp [ih]

/-- in an accepted chain the call at index `i` is an accepted step from the state the calls before it lead to -/
theorem run_at {s s' : St} {cs : List Call} (h : run s cs = some s') {i : Nat} {c : Call} (hi : cs[i]? = some c) :
    ∃ si si', run s (cs.take i) = some si ∧ step si c = some si' ∧ run s (cs.take (i + 1)) = some si' := by
  obtain ⟨hlt, hc⟩ := List.getElem?_eq_some_iff.1 hi
  rw [← List.take_append_drop (i + 1) cs, run_append] at h
  rw [List.take_succ_eq_append_getElem hlt, hc, run_append] at h ⊢
  cases h1 : run s (cs.take i) with
  | none => simp [h1] at h
  | some si =>
    cases h2 : step si c with
    | none => simp [h1, h2, run] at h
    | some si' => exact ⟨si, si', rfl, h2, by simp [run, h2]⟩

theorem run_ord (s s' : St) (cs : List Call) (h : run s cs = some s') : s'.ord = s.ord := by
  induction cs generalizing s with
  | nil => simp [run] at h; subst h; rfl
  | cons c cs ih =>
    rw [run_cons] at h
    cases hs : step s c with
    | none => simp [hs] at h
    | some s1 => simp [hs] at h; rw [ih s1 h, step_ord s s1 c hs]

end Unimock.Typestate
