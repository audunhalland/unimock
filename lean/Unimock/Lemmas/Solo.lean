import Unimock.Lemmas.Eval
/-!
A call cut into atomic actions (Model/Interleave) and run with no other thread in between is the
sequential call of Model/Core. This is what ties the interleaving model — about which the C10
theorems speak — to the sequential model all other theorems speak about.
-/
namespace Unimock
variable {α ρ : Type}

def ThreadOut.ofEval : EvalOutcome ρ → ThreadOut ρ
  | .ret v => .ret v
  | .contAnswer _ => .cont 0
  | .contUnmock => .cont 1
  | .contDefault => .cont 2
  | .err e => .err e
  | .userPanic => .userPanic

/-- run the remaining atomic actions of the current call, one after the other, nothing in between -/
def finish : Nat → Shared α ρ → Sum (ThreadOut ρ) (Phase α ρ) → Shared α ρ × Option (ThreadOut ρ)
  | _, s, .inl o => (s, some o)
  | 0, s, .inr _ => (s, none)
  | fuel+1, s, .inr ph =>
    match ph with
    | .atGlobal m a =>
      let (s1, r) := applyAction s .bumpGlobal
      let idx := match r with | .idx n => n | _ => 0
      finish fuel s1 (afterGlobal s1 m a idx)
    | .atPat m pi =>
      let (s1, r) := applyAction s (.bumpPat m.id pi)
      let c := match r with | .idx n => n | _ => 0
      finish fuel s1 (afterPat s1 m pi c)
    | .atTake m pi ri v =>
      let (s1, r) := applyAction s (.takeSlot m.id pi ri)
      match r with
      | .took true => (s1, some (.ret v))
      | _ => finish fuel s1 (.inr (.atPush (.cannotReturnValueMoreThanOnce m pi)))
    | .atPush e => ((applyAction s (.pushReason e)).1, some (.err e))
    | .notStarted => (s, none)
    | .finished => (s, none)

/-- what the calling thread sees of an evaluated call: `handle_error` logs a mock error before it is raised -/
def logged : Shared α ρ × EvalOutcome ρ → Shared α ρ × Option (ThreadOut ρ)
  | (s, .err e) => (s.induce e, some (.err e))
  | (s, o) => (s, some (.ofEval o))

theorem call_logged (s : Shared α ρ) (m : MethodInfo) (a : α) :
    ((call s m a).1, some (ThreadOut.ofEval (call s m a).2)) = logged (evalCall s m a) := by
  unfold call
  rcases evalCall s m a with ⟨s', o⟩
  cases o <;> rfl

/-- where a resolved call pauses first: before logging its error, before counting its pattern — or not at all -/
def Resolution.phase (m : MethodInfo) : Resolution α ρ → Sum (ThreadOut ρ) (Phase α ρ)
  | .miss (.err e) => .inr (.atPush e)
  | .miss o => .inl (.ofEval o)
  | .hit pi _ => .inr (.atPat m pi)

theorem beginCall_eq (s : Shared α ρ) (m : MethodInfo) (a : α) :
    beginCall s m a = match (s.find m.id).map (·.mode) with
      | some Mode.inOrder => .inr (.atGlobal m a)
      | _ => (s.resolve m a).phase m := by
  unfold beginCall Shared.resolve resolveIn
  cases s.find m.id with
  | none => cases m.hasDefaultImpl <;> cases m.partialByDefault <;> cases s.fallback <;> rfl
  | some fm =>
    cases hm : fm.mode with
    | inOrder => simp only [hm, Option.map_some]
    | anyOrder =>
      simp only [hm, Option.map_some, resolveAny]
      rcases hs : scan fm.pats a 0 with _ | ⟨pi, _ | _ | _⟩
      · cases s.fallback <;> rfl
      · simp only [List.getElem?_eq_getElem (scan_lt fm.pats a pi .accept hs)]; rfl
      · rfl
      · rfl

theorem afterGlobal_eq (s : Shared α ρ) (m : MethodInfo) (a : α) (idx : Nat) (fm : FnMocker α ρ)
    (hf : s.find m.id = some fm) :
    afterGlobal s m a idx = (resolveOrd idx (s.findOrderedExpected idx) m a fm).phase m := by
  unfold afterGlobal resolveOrd
  simp only [hf]
  cases findForOrder fm.pats idx with
  | none => rfl
  | some pi =>
    dsimp only
    cases fm.pats[pi]? with
    | none => rfl
    | some p => dsimp only; rcases tryPat p a with _ | _ | _ | _ <;> rfl

theorem modify_eq_set {β : Type} (l : List β) (i : Nat) (f : β → β) (x : β) (h : l[i]? = some x) :
    l.modify i f = l.set i (f x) :=
  List.ext_getElem? fun j => by
    rw [List.getElem?_modify, List.getElem?_set']
    by_cases hij : i = j
    · subst hij; simp [h]
    · simp [hij]

/-- the part of a call after its pattern was chosen, in the sequential model: count it, ask it -/
theorem finish_atPat (s : Shared α ρ) (hu : s.UniqueIds) (m : MethodInfo) (pi : Nat) (p : Pattern α ρ)
    (hp : s.pat? m.id pi = some p) (k : Nat) :
    finish (k + 3) s (.inr (.atPat m pi)) = logged (s.answer m pi p) := by
  have hs1 := mapPat_eq_setPat s hu m.id pi (fun p => { p with count := p.count + 1 }) p hp
  have hp1 := pat?_setPat_same s m.id pi { p with count := p.count + 1 } p hp
  obtain ⟨fm1, hf1, hfp1⟩ := pat?_eq_some.1 hp1
  simp only [finish, applyAction, hs1, patCount_eq, hp, Option.map_some, Option.getD_some]
  unfold afterPat Shared.answer respond
  simp only [hf1, hfp1]
  cases findResponderIdx p.responders p.count with
  | none => rfl
  | some ri =>
    dsimp only
    cases hr : p.responders[ri]? with
    | none => rfl
    | some r =>
      dsimp only
      cases hresp : r.resp with
      | ret v once =>
        cases once with
        | false => rfl
        | true =>
          have htaken : (s.setPat m.id pi { p with count := p.count + 1 }).slotTaken m.id pi ri = r.taken := by
            simp [slotTaken_eq, hp1, hr]
          simp only [finish, applyAction, htaken]
          cases r.taken with
          | true => rfl
          | false =>
            simp only [Bool.false_eq_true, ↓reduceIte, logged, ThreadOut.ofEval]
            rw [mapPat_eq_setPat _ (uniqueIds_setPat s _ _ _ hu) _ _ _ _ hp1, setPat_setPat,
              modify_eq_set p.responders ri _ r hr, hresp]
      | _ => rfl

/-- **a call run alone through its atomic actions is the sequential call** (distinct method ids) -/
theorem finish_begin_eq_call (s : Shared α ρ) (hu : s.UniqueIds) (m : MethodInfo) (a : α) :
    finish 4 s (beginCall s m a) = ((call s m a).1, some (ThreadOut.ofEval (call s m a).2)) := by
  -- from the first pause of a resolved call: nothing, the error push, or `finish_atPat`
  have hph : ∀ (s1 : Shared α ρ) (r : Resolution α ρ) (k : Nat), s1.UniqueIds →
      (∀ pi p, r = .hit pi p → s1.pat? m.id pi = some p) →
      finish (k + 3) s1 (r.phase m) = logged (match r with | .miss o => (s1, o) | .hit pi p => s1.answer m pi p) := by
    intro s1 r k hu1 hr
    cases r with
    | miss o => cases o <;> rfl
    | hit pi p => exact finish_atPat s1 hu1 m pi p (hr pi p rfl) k
  rw [call_logged, evalCall_eq, beginCall_eq]
  unfold Shared.apply Shared.claim
  cases hf : s.find m.id with
  | none => exact hph s _ 1 hu fun pi p h => resolve_hit h
  | some fm =>
    cases hm : fm.mode with
    | anyOrder => simp only [Option.map_some, hm]; exact hph s _ 1 hu fun pi p h => resolve_hit h
    | inOrder =>
      simp only [Option.map_some, hm, finish, applyAction]
      have hr : s.resolve m a = resolveOrd s.nextOrdered
          (({ s with nextOrdered := s.nextOrdered + 1 } : Shared α ρ).findOrderedExpected s.nextOrdered) m a fm := by
        simp only [Shared.resolve, resolveIn, hf, hm]; rfl
      rw [afterGlobal_eq { s with nextOrdered := s.nextOrdered + 1 } m a _ fm hf, hr]
      exact hph _ _ 0 hu fun pi p h => resolve_hit (s := s) (hr.trans h)

end Unimock
