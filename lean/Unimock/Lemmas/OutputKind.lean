import Unimock.Model.Codegen.OutputKind
/-! The kind the macro assigns to a return type accepts every value of that type. -/
namespace Unimock.Output

theorem intoReturnAll_cons_isSome (once : Bool) (k : Kind) (v : Val) (vs : ValList) :
    (intoReturnAll once k (.cons v vs)).isSome =
      ((intoReturn once k v).isSome && (intoReturnAll once k vs).isSome) := by
  rw [intoReturnAll]; cases intoReturn once k v <;> cases intoReturnAll once k vs <;> rfl

theorem intoReturnZip_cons_isSome (once : Bool) (k : Kind) (ks : KindList) (v : Val) (vs : ValList) :
    (intoReturnZip once (.cons k ks) (.cons v vs)).isSome =
      ((intoReturn once k v).isSome && (intoReturnZip once ks vs).isSome) := by
  rw [intoReturnZip]; cases intoReturn once k v <;> cases intoReturnZip once ks vs <;> rfl

end Unimock.Output

namespace Unimock.Codegen.OutKind
open Unimock.Output

/-- A marker other than `Shallow`/`Deep` is read as `Owning`, `Lending` or `StaticRef` (or not at all),
    and these store any value. -/
theorem fits_of_not_nested {n : KName} {kt : KTy} {k : Kind} (hn : n.isNested = false)
    (h : toKind n kt = some k) (once : Bool) (v : Val) : (intoReturn once k v).isSome = true := by
  cases n
  case shallow | deep => cases hn
  all_goals rw [toKind] at h; cases h
  all_goals rw [intoReturn]; rfl

/-- a generic path the run-time does not know is never read as `Shallow` or `Deep` -/
theorem fits_of_other {n : KName} {s : String} {l : KTyList} {k : Kind}
    (h : toKind n (.app (.other s) l) = some k) (once : Bool) (v : Val) :
    (intoReturn once k v).isSome = true := by
  cases hn : n.isNested
  · exact fits_of_not_nested hn h once v
  · cases n <;> cases hn <;> cases h

/-! What `toKind ∘ mgk` can be on the generic paths the run-time knows: `Shallow` over a shared
reference, or `Deep` over the kinds of the arguments. `mgk` decides between the two by
`(mgk a).1.isNested` for each argument `a`; a mixed `Result` is read as nothing. -/

theorem toKind_mgk_option {a : Ty} {k : Kind}
    (h : toKind (mgk (.app .option (.cons a .nil))).1 (mgk (.app .option (.cons a .nil))).2 = some k) :
    k = .shallowOpt ∨ ∃ k', toKind (mgk a).1 (mgk a).2 = some k' ∧ k = .deepOpt k' := by
  simp only [mgk, mgkArgs] at h
  split at h
  · obtain ⟨k', hk', rfl⟩ := Option.map_eq_some_iff.1 h
    exact .inr ⟨k', hk', rfl⟩
  · exact .inl (Option.some.inj (Option.ite_none_right_eq_some.1 h).2).symm

theorem toKind_mgk_vec {a : Ty} {k : Kind}
    (h : toKind (mgk (.app .vec (.cons a .nil))).1 (mgk (.app .vec (.cons a .nil))).2 = some k) :
    k = .shallowVec ∨ ∃ k', toKind (mgk a).1 (mgk a).2 = some k' ∧ k = .deepVec k' := by
  simp only [mgk, mgkArgs] at h
  split at h
  · obtain ⟨k', hk', rfl⟩ := Option.map_eq_some_iff.1 h
    exact .inr ⟨k', hk', rfl⟩
  · exact .inl (Option.some.inj (Option.ite_none_right_eq_some.1 h).2).symm

theorem toKind_mgk_poll {a : Ty} {k : Kind}
    (h : toKind (mgk (.app .poll (.cons a .nil))).1 (mgk (.app .poll (.cons a .nil))).2 = some k) :
    ∃ k', toKind (mgk a).1 (mgk a).2 = some k' ∧ k = .deepPoll k' := by
  simp only [mgk, mgkArgs] at h
  split at h
  · obtain ⟨k', hk', rfl⟩ := Option.map_eq_some_iff.1 h
    exact ⟨k', hk', rfl⟩
  · cases h

theorem toKind_mgk_result {a b : Ty} {k : Kind}
    (h : toKind (mgk (.app .result (.cons a (.cons b .nil)))).1
      (mgk (.app .result (.cons a (.cons b .nil)))).2 = some k) :
    k = .shallowRes ∨ ∃ ka kb,
      toKind (mgk a).1 (mgk a).2 = some ka ∧ toKind (mgk b).1 (mgk b).2 = some kb ∧ k = .deepRes ka kb := by
  simp only [mgk, mgkArgs] at h
  split at h <;> split at h
  · simp only [toKind] at h
    split at h
    · rename_i ka kb ha hb; exact .inr ⟨ka, kb, ha, hb, (Option.some.inj h).symm⟩
    · cases h
  · cases h
  · cases h
  · exact .inl (Option.some.inj (Option.ite_none_right_eq_some.1 h).2).symm

/-- **The kind `make_generic_kind` yields fits the type**, by induction along `hasType` (so a value
    and its type are taken apart together): for one value, for the elements of a tuple against
    `wrapElems`, and for the elements of a `Vec`. -/
theorem mgk_fits (once : Bool) :
    (∀ v t k, toKind (mgk t).1 (mgk t).2 = some k → hasType v t = true →
      (intoReturn once k v).isSome = true) ∧
    (∀ vs ts ks, toKindList (wrapElems ts) = some ks → hasTypeZip vs ts = true →
      (intoReturnZip once ks vs).isSome = true) ∧
    (∀ vs t k, toKind (mgk t).1 (mgk t).2 = some k → hasTypeAll vs t = true →
      (intoReturnAll once k vs).isSome = true) := by
  refine hasType.mutual_induct _ _ _ ?ref ?named ?other ?none ?some ?ok ?err ?vec ?pending ?ready ?tuple
    ?illTyped ?zipNil ?zipCons ?zipIll ?allNil ?allCons
  -- a reference, a named type, a tuple: `mgk` does not look inside
  case ref => exact fun v _ m _ _ _ hk _ => fits_of_not_nested (by cases m <;> rfl) hk once v
  case named | tuple => intros; rename_i hk _; exact fits_of_not_nested rfl hk once _
  case other => exact fun _ _ _ _ hk _ => fits_of_other hk once _
  -- `None`, `Pending`: stored whatever the kind of the argument
  case none => intro a k hk _; rcases toKind_mgk_option hk with rfl | ⟨k', -, rfl⟩ <;> rfl
  case pending => intro a k hk _; obtain ⟨k', -, rfl⟩ := toKind_mgk_poll hk; rfl
  -- one level of `Some`/`Ok`/`Err`/`Vec`/`Ready`: `Shallow` stores it, `Deep` stores what is inside
  case some =>
    intro v a ih k hk hv
    rw [hasType] at hv
    rcases toKind_mgk_option hk with rfl | ⟨k', hk', rfl⟩
    · rfl
    · exact Option.isSome_map.trans (ih k' hk' hv)
  case ok =>
    intro v a b ih k hk hv
    rw [hasType] at hv
    rcases toKind_mgk_result hk with rfl | ⟨ka, kb, ha, -, rfl⟩
    · rfl
    · exact Option.isSome_map.trans (ih ka ha hv)
  case err =>
    intro v a b ih k hk hv
    rw [hasType] at hv
    rcases toKind_mgk_result hk with rfl | ⟨ka, kb, -, hb, rfl⟩
    · rfl
    · exact Option.isSome_map.trans (ih kb hb hv)
  case vec =>
    intro vs a ih k hk hv
    rw [hasType] at hv
    rcases toKind_mgk_vec hk with rfl | ⟨k', hk', rfl⟩
    · rfl
    · exact Option.isSome_map.trans (ih k' hk' hv)
  case ready =>
    intro v a ih k hk hv
    rw [hasType] at hv
    obtain ⟨k', hk', rfl⟩ := toKind_mgk_poll hk
    exact Option.isSome_map.trans (ih k' hk' hv)
  case illTyped => intros; rename_i hv; simp only [hasType, Bool.false_eq_true] at hv
  case zipIll => intros; rename_i hv; simp only [hasTypeZip, Bool.false_eq_true] at hv
  case zipNil => intro ks hk _; cases hk; rfl
  case zipCons =>
    intro v vs t ts ihv ihvs ks hk hv
    rw [wrapElems, toKindList] at hk
    split at hk
    · rename_i k ks' hk' hks'
      cases hk
      rw [hasTypeZip, Bool.and_eq_true] at hv
      rw [intoReturnZip_cons_isSome, ihv k hk' hv.1, ihvs ks' hks' hv.2]; rfl
    · cases hk
  case allNil => intros; rfl
  case allCons =>
    intro v vs t ihv ihvs k hk hv
    rw [hasTypeAll, Bool.and_eq_true] at hv
    rw [intoReturnAll_cons_isSome, ihv k hk hv.1, ihvs k hk hv.2]; rfl

end Unimock.Codegen.OutKind
