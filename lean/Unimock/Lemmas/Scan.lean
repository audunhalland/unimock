import Unimock.Model.Core
/-! Lemmas about the unordered first-match scan (`match_call_pattern`, InAnyOrder). -/
namespace Unimock
variable {α ρ : Type}

theorem scan_eq_some (ps : List (Pattern α ρ)) (a : α) (k i : Nat) (b : Try) :
    scan ps a k = some (i, b) ↔
      ∃ j, i = j + k ∧ ∃ h : j < ps.length, tryPat ps[j] a = some b ∧
        ∀ l (hl : l < j), tryPat (ps[l]'(Nat.lt_trans hl h)) a = none := by
  induction ps generalizing k with
  | nil => exact iff_of_false nofun (by rintro ⟨_, _, h, _⟩; cases h)
  | cons p ps ih =>
    rw [scan]
    cases hp : tryPat p a with
    | some b' =>
      -- `p` stops the scan, and it is the only candidate: a later one would need `p` to reject
      constructor
      · rintro ⟨⟩; exact ⟨0, (Nat.zero_add _).symm, Nat.zero_lt_succ _, hp, nofun⟩
      · rintro ⟨_ | j, rfl, h, hj, hl⟩
        · cases hp.symm.trans hj; rw [Nat.zero_add]
        · cases hp.symm.trans (hl 0 (Nat.succ_pos j))
    | none =>
      -- position `j + 1` of `p :: ps` is position `j` of `ps`, definitionally
      rw [ih]
      constructor
      · rintro ⟨j, rfl, h, hj, hl⟩
        exact ⟨j + 1, (Nat.succ_add_eq_add_succ j k).symm, Nat.succ_lt_succ h, hj, Nat.forall_lt_succ_left'.2 ⟨hp, hl⟩⟩
      · rintro ⟨_ | j, rfl, h, hj, hl⟩
        · cases hp.symm.trans hj
        · exact ⟨j, Nat.succ_add_eq_add_succ j k, Nat.lt_of_succ_lt_succ h, hj, (Nat.forall_lt_succ_left'.1 hl).2⟩

theorem scan_eq_none (ps : List (Pattern α ρ)) (a : α) (k : Nat) :
    scan ps a k = none ↔ ∀ p ∈ ps, tryPat p a = none := by
  induction ps generalizing k with
  | nil => simp [scan]
  | cons p ps ih =>
    rw [scan, List.forall_mem_cons]
    cases hp : tryPat p a with
    | some b => exact ⟨nofun, fun h => nomatch h.1⟩
    | none => exact (ih (k + 1)).trans (and_iff_right rfl).symm

theorem scan_some_iff (ps : List (Pattern α ρ)) (a : α) (i : Nat) (b : Try) :
    scan ps a 0 = some (i, b) ↔
      ∃ h : i < ps.length, tryPat ps[i] a = some b ∧ ∀ j (hj : j < i), tryPat (ps[j]'(by omega)) a = none :=
  (scan_eq_some ps a 0 i b).trans ⟨by rintro ⟨_, rfl, h⟩; exact h, fun h => ⟨i, rfl, h⟩⟩

theorem scan_none_iff (ps : List (Pattern α ρ)) (a : α) :
    scan ps a 0 = none ↔ ∀ p ∈ ps, tryPat p a = none :=
  scan_eq_none ps a 0

theorem scan_lt (ps : List (Pattern α ρ)) (a : α) (i : Nat) (b : Try)
    (h : scan ps a 0 = some (i, b)) : i < ps.length :=
  ((scan_some_iff ps a i b).mp h).1

/-- the scan looks at matchers only: counts, slots, responders, expectations are irrelevant -/
def sameMatchers (ps qs : List (Pattern α ρ)) : Prop :=
  ps.map (·.matcher) = qs.map (·.matcher)

theorem tryPat_matcher (p q : Pattern α ρ) (a : α) (h : p.matcher = q.matcher) :
    tryPat p a = tryPat q a := by unfold tryPat; rw [h]

theorem scan_config_only (ps qs : List (Pattern α ρ)) (a : α) (h : sameMatchers ps qs) (k : Nat) :
    scan ps a k = scan qs a k := by
  induction ps generalizing qs k with
  | nil =>
    cases qs with
    | nil => rfl
    | cons q qs => cases h
  | cons p ps ih =>
    cases qs with
    | nil => cases h
    | cons q qs =>
      obtain ⟨hq, hqs⟩ := List.cons.inj h
      rw [scan, scan, tryPat_matcher p q a hq, ih qs hqs]

end Unimock
