import Unimock.Lemmas.Typestate
import Unimock.Lemmas.Builder
/-!
From a chain of builder calls (type-state level) to the quantifier chain of the value-level builder model:
what the calls mean for the expectation the pattern ends up with.
-/
namespace Unimock.Typestate
open Unimock

variable {ρ : Type}

/-- the quantifier a call stands for (the counts are immaterial here: `n_times(2)`, `at_least_times(1)`) -/
def quantOf : Call → Option Quant
  | .once => some .once
  | .nTimes => some (.nTimes 2)
  | .atLeastTimes => some (.atLeastTimes 1)
  | _ => none

/-- the response a call defines (`v` stands for the configured value) -/
def respOf (v : ρ) : Call → Option (Resp ρ × Bool)
  | .returns _ => some (.ret v false, true)
  | .other => some (.unmock, false)
  | _ => none

/-- read a chain of builder calls as response segments: `resp [quant] (then resp [quant])*`;
    `qrv`: the first response is defined on `DefineResponse` (after `some_call` / `next_call`) -/
def toSegs (v : ρ) : Nat → Bool → List Call → Option (List (Segment ρ))
  | 0, _, _ => none
  | _ + 1, _, [] => none
  | fuel + 1, qrv, r :: rest =>
    match respOf v r with
    | none => none
    | some (resp, isRet) =>
      match rest with
      | [] => some [⟨resp, .unquantified, qrv && isRet⟩]
      | q :: rest' =>
        match quantOf q with
        | none => none
        | some qu =>
          match rest' with
          | [] => some [⟨resp, qu, qrv && isRet⟩]
          | .then_ :: rest'' => (toSegs v fuel false rest'').map fun t => ⟨resp, qu, qrv && isRet⟩ :: t
          | _ :: _ => none

/-- how a chain of calls is read: a response, then nothing, or a quantifier, or a quantifier, `then` and the rest -/
theorem toSegs_eq_some {v : ρ} {fuel : Nat} {qrv : Bool} {cs : List Call} {segs : List (Segment ρ)}
    (h : toSegs v fuel qrv cs = some segs) :
    ∃ fuel' r rest resp isRet, fuel = fuel' + 1 ∧ cs = r :: rest ∧ respOf v r = some (resp, isRet) ∧
      ((rest = [] ∧ segs = [⟨resp, .unquantified, qrv && isRet⟩]) ∨
       ∃ q qu, quantOf q = some qu ∧
         ((rest = [q] ∧ segs = [⟨resp, qu, qrv && isRet⟩]) ∨
          ∃ rest'' t, rest = q :: .then_ :: rest'' ∧ toSegs v fuel' false rest'' = some t ∧
            segs = ⟨resp, qu, qrv && isRet⟩ :: t)) := by
  cases fuel with
  | zero => cases h
  | succ fuel' =>
    cases cs with
    | nil => cases h
    | cons r rest =>
      simp only [toSegs] at h
      cases hr : respOf v r with
      | none => simp [hr] at h
      | some x =>
        obtain ⟨resp, isRet⟩ := x
        refine ⟨fuel', r, rest, resp, isRet, rfl, rfl, hr, ?_⟩
        simp only [hr] at h
        cases rest with
        | nil => exact .inl ⟨rfl, (Option.some.inj h).symm⟩
        | cons q rest' =>
          simp only at h
          cases hq : quantOf q with
          | none => simp [hq] at h
          | some qu =>
            refine .inr ⟨q, qu, hq, ?_⟩
            simp only [hq] at h
            cases rest' with
            | nil => exact .inl ⟨rfl, (Option.some.inj h).symm⟩
            | cons c rest'' =>
              cases c <;> try cases h
              obtain ⟨t, ht, rfl⟩ := Option.map_eq_some_iff.1 h
              exact .inr ⟨rest'', t, rfl, ht, rfl⟩

theorem toSegs_ne_nil (v : ρ) (fuel : Nat) (qrv : Bool) (cs : List Call) (segs : List (Segment ρ))
    (h : toSegs v fuel qrv cs = some segs) : segs ≠ [] := by
  obtain ⟨_, _, _, _, _, _, _, _, ⟨_, rfl⟩ | ⟨_, _, _, ⟨_, rfl⟩ | ⟨_, _, _, _, rfl⟩⟩⟩ := toSegs_eq_some h <;> simp

/-- an `at_least_times` segment comes from an `at_least_times` call -/
theorem toSegs_atLeast (v : ρ) (fuel : Nat) (qrv : Bool) (cs : List Call) (segs : List (Segment ρ))
    (h : toSegs v fuel qrv cs = some segs) (s : Segment ρ) (hs : s ∈ segs) (n : Nat) (hq : s.quant = .atLeastTimes n) :
    Call.atLeastTimes ∈ cs := by
  induction fuel generalizing qrv cs segs with
  | zero => cases h
  | succ fuel ih =>
    have hcall : ∀ q, quantOf q = some (.atLeastTimes n) → q = .atLeastTimes := by intro q; cases q <;> simp [quantOf]
    obtain ⟨_, r, rest, resp, isRet, hf, rfl, _, ⟨rfl, rfl⟩ | ⟨q, qu, hqu, ⟨rfl, rfl⟩ | ⟨rest'', t, rfl, ht, rfl⟩⟩⟩ :=
      toSegs_eq_some h
    · cases List.mem_singleton.1 hs; cases hq
    · cases List.mem_singleton.1 hs
      simp [hcall q (hq ▸ hqu)]
    · cases Nat.succ.inj hf
      rcases List.mem_cons.1 hs with rfl | hs'
      · simp [hcall q (hq ▸ hqu)]
      · simp [ih false rest'' t ht hs']
/-- without `at_least_times` segments a top-level ordered chain always ends exact -/
theorem chainExactness_ordered_exact (init : Exactness) (segs : List (Segment ρ)) (hne : segs ≠ [])
    (hno : ∀ s ∈ segs, ∀ n, s.quant ≠ .atLeastTimes n) : chainExactness true .inOrder init segs = .exact := by
  induction segs generalizing init with
  | nil => exact absurd rfl hne
  | cons s t ih =>
    cases t with
    | nil =>
      simp only [chainExactness]
      have := hno s (by simp)
      cases hq : s.quant with
      | once => rfl
      | nTimes n => rfl
      | atLeastTimes n => exact absurd hq (this n)
      | unquantified => simp [implicitOnce]
    | cons s2 t2 =>
      simp only [chainExactness]
      exact ih .atLeastPlusOne (by simp) (fun x hx n => hno x (by simp [hx]) n)

end Unimock.Typestate
