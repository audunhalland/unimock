import Unimock.Lemmas.Assemble
/-! Invariants of ordered patterns: slot ranges assigned by the assembler are pairwise disjoint and
    consecutive; along a deviation-free history every ordered pattern's counter is determined by the
    global index. -/
namespace Unimock
variable {α ρ : Type}

def patOf (ms : List (FnMocker α ρ)) (id i : Nat) : Option (Pattern α ρ) :=
  (ms.find? (·.info.id = id)).bind (·.pats[i]?)

def modeOf (ms : List (FnMocker α ρ)) (id : Nat) : Option Mode :=
  (ms.find? (·.info.id = id)).map (·.mode)

theorem Shared.pat?_eq (s : Shared α ρ) (id i : Nat) : s.pat? id i = patOf s.mockers id i := rfl

/-- ranges of distinct ordered patterns never overlap -/
def OrdDisjoint (ms : List (FnMocker α ρ)) : Prop :=
  ∀ id i id' j p q, patOf ms id i = some p → patOf ms id' j = some q →
    modeOf ms id = some .inOrder → modeOf ms id' = some .inOrder → (id ≠ id' ∨ i ≠ j) →
    p.hi ≤ q.lo ∨ q.hi ≤ p.lo

/-- every ordered pattern's range lies below `cur`, has the length of its exact count, and starts uncounted -/
def OrdBelow (ms : List (FnMocker α ρ)) (cur : Nat) : Prop :=
  ∀ id i p, patOf ms id i = some p → modeOf ms id = some .inOrder → p.hi ≤ cur ∧ p.hi = p.lo + p.min ∧ p.count = 0

theorem find?_append_one' {β : Type} (l : List β) (x : β) (p : β → Bool) :
    (l ++ [x]).find? p = (l.find? p).or (if p x then some x else none) := find?_append_one l x p

/-- a pattern of the table after a push is an old one — and then its method's mode is as before — or the pushed one, of the
    pushed terminal's mode, at the one index that was free -/
theorem push_patOf (a a' : Asm α ρ) (t : Terminal α ρ) (h : a.push t = .ok a') (id i : Nat) (p : Pattern α ρ)
    (hp : patOf a'.mockers id i = some p) :
    (patOf a.mockers id i = some p ∧ modeOf a'.mockers id = modeOf a.mockers id) ∨
      (id = t.info.id ∧ i = ((a.mockers.find? (·.info.id = t.info.id)).map (·.pats.length)).getD 0 ∧
        p = (newPattern a t.b).2 ∧ modeOf a'.mockers id = some t.b.mode) := by
  unfold patOf modeOf at *
  rw [push_find a a' t h] at hp ⊢
  by_cases hid : id = t.info.id
  · subst hid
    have hok := (not_congr (push_error_iff a t)).1 (fun ⟨e, he⟩ => by rw [h] at he; cases he)
    rw [if_pos rfl] at hp ⊢
    unfold pushedEntry at hp ⊢
    cases hf : a.mockers.find? (·.info.id = t.info.id) with
    | none =>
      right
      rw [hf] at hp
      cases i with
      | zero => simp at hp; exact ⟨rfl, rfl, hp.symm, rfl⟩
      | succ k => simp at hp
    | some fm =>
      rw [hf] at hp
      simp only [Option.bind_some, Option.map_some] at hp ⊢
      by_cases hi : i < fm.pats.length
      · rw [List.getElem?_append_left hi] at hp; exact .inl ⟨hp, trivial⟩
      · rw [List.getElem?_append_right (Nat.le_of_not_lt hi)] at hp
        have hm : fm.mode = t.b.mode := Decidable.byContradiction fun hm => hok (.inr ⟨fm, hf, hm⟩)
        cases hk : i - fm.pats.length with
        | zero =>
          rw [hk] at hp
          exact .inr ⟨trivial, by simp only [Option.getD_some]; omega, by simpa using hp.symm, by rw [hm]⟩
        | succ k => rw [hk] at hp; simp at hp
  · rw [if_neg hid] at hp ⊢
    exact .inl ⟨hp, rfl⟩

/-- one `Sink::push` keeps the ordered ranges disjoint, below the running index, and advances the index -/
theorem push_ranges (a a' : Asm α ρ) (t : Terminal α ρ) (hpush : a.push t = .ok a')
    (hd : OrdDisjoint a.mockers) (hb : OrdBelow a.mockers a.cur) :
    OrdDisjoint a'.mockers ∧ OrdBelow a'.mockers a'.cur ∧ a.cur ≤ a'.cur := by
  have hcur : a.cur ≤ a'.cur := by rw [push_cur a a' t hpush]; split <;> simp
  -- an ordered pushed pattern takes the range from the old running index to the new one
  have hnew : t.b.mode = .inOrder → (newPattern a t.b).2.lo = a.cur ∧ (newPattern a t.b).2.hi = a'.cur ∧
      (newPattern a t.b).2.hi = (newPattern a t.b).2.lo + (newPattern a t.b).2.min ∧ (newPattern a t.b).2.count = 0 := by
    intro hm; rw [push_cur a a' t hpush]; simp [newPattern, hm, exactCalls]
  refine ⟨?_, ?_, hcur⟩
  · intro id i id' j p q hp hq hm hm' hne
    rcases push_patOf a a' t hpush id i p hp with ⟨h1, e1⟩ | ⟨rfl, n1, rfl, e1⟩ <;>
      rcases push_patOf a a' t hpush id' j q hq with ⟨h2, e2⟩ | ⟨rfl, n2, rfl, e2⟩ <;> rw [e1] at hm <;> rw [e2] at hm'
    · exact hd id i id' j p q h1 h2 hm hm' hne
    · exact .inl ((hnew (Option.some.inj hm')).1 ▸ (hb id i p h1 hm).1)
    · exact .inr ((hnew (Option.some.inj hm)).1 ▸ (hb id' j q h2 hm').1)
    · -- both are the pushed pattern: it sits at one index only
      exact absurd (n1.trans n2.symm) (hne.resolve_left fun h => h rfl)
  · intro id i p hp hm
    rcases push_patOf a a' t hpush id i p hp with ⟨h1, e1⟩ | ⟨rfl, _, rfl, e1⟩ <;> rw [e1] at hm
    · exact ⟨Nat.le_trans (hb id i p h1 hm).1 hcur, (hb id i p h1 hm).2⟩
    · have := hnew (Option.some.inj hm)
      exact ⟨Nat.le_of_eq this.2.1, this.2.2⟩

end Unimock
