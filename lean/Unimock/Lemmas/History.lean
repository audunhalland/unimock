import Unimock.Lemmas.Eval
/-! Pattern counters along a history of calls: a counter is the number of calls the pattern answered. -/
namespace Unimock
variable {α ρ : Type}

/-- the match count of pattern `(id, pi)` (0 when there is no such pattern) -/
def Shared.countOf (s : Shared α ρ) (id pi : Nat) : Nat :=
  match s.pat? id pi with
  | some p => p.count
  | none => 0

/-- the pattern of method `m` that a call with arguments `a` is matched by in state `s`, if any:
    unordered — the first pattern whose matcher accepts; ordered — the owner of the current slot, if
    its matcher accepts -/
def selected (s : Shared α ρ) (m : MethodInfo) (a : α) : Option Nat :=
  match s.find m.id with
  | none => none
  | some fm =>
    match fm.mode with
    | .anyOrder =>
      match scan fm.pats a 0 with
      | none => none
      | some (pi, .accept) => some pi
      | some (_, .noMatcher) => none
      | some (_, .userPanic) => none
    | .inOrder =>
      match findForOrder fm.pats s.nextOrdered with
      | none => none
      | some pi =>
        match fm.pats[pi]? with
        | none => none
        | some p =>
          match tryPat p a with
          | some .accept => some pi
          | some .noMatcher => none
          | some .userPanic => none
          | none => none

/-- `selected` is the index of the resolution's hit -/
theorem selected_eq (s : Shared α ρ) (m : MethodInfo) (a : α) :
    selected s m a = match s.resolve m a with
      | .hit pi _ => some pi
      | .miss _ => none := by
  unfold selected Shared.resolve resolveIn
  cases s.find m.id with
  | none => rfl
  | some fm =>
    cases hm : fm.mode with
    | anyOrder =>
      simp only [hm, resolveAny]
      rcases hs : scan fm.pats a 0 with _ | ⟨pi, _ | _ | _⟩ <;> try rfl
      simp only [List.getElem?_eq_getElem (scan_lt fm.pats a pi .accept hs)]
    | inOrder =>
      simp only [hm, resolveOrd]
      cases findForOrder fm.pats s.nextOrdered with
      | none => rfl
      | some pi =>
        dsimp only
        cases fm.pats[pi]? with
        | none => rfl
        | some p => dsimp only; rcases tryPat p a with _ | _ | _ | _ <;> rfl

theorem countOf_bump (s : Shared α ρ) (id pi id' pi' : Nat) (p q : Pattern α ρ)
    (hp : s.pat? id pi = some p) (hq : q.count = p.count + 1) :
    (s.setPat id pi q).countOf id' pi' = s.countOf id' pi' + (if id' = id ∧ pi' = pi then 1 else 0) := by
  unfold Shared.countOf
  rw [pat?_setPat]
  by_cases h : id' = id ∧ pi' = pi
  · obtain ⟨rfl, rfl⟩ := h; simp [hp, hq]
  · simp [h]

theorem countOf_induce (s : Shared α ρ) (e : MockError) (id pi : Nat) : (s.induce e).countOf id pi = s.countOf id pi := rfl

/-- **one call bumps exactly the counter of the pattern it is matched by, and no other** -/
theorem evalCall_countOf (s : Shared α ρ) (m : MethodInfo) (a : α) (id pi : Nat) :
    (evalCall s m a).1.countOf id pi =
      s.countOf id pi + (if id = m.id ∧ selected s m a = some pi then 1 else 0) := by
  rw [evalCall_eq, selected_eq]
  cases hr : s.resolve m a with
  | miss o => simp [Shared.apply, Shared.countOf]
  | hit pi0 p =>
    simp only [Shared.apply, Shared.answer]
    rw [countOf_bump _ _ _ _ _ p _ (by rw [claim_pat?]; exact resolve_hit hr) rfl]
    simp [Shared.countOf, eq_comm]

/-- the outcome of a call that is matched by pattern `pi`: that pattern's response chain, asked at the pattern's
    current counter -/
theorem evalCall_outcome_of_selected (s : Shared α ρ) (m : MethodInfo) (a : α) (pi : Nat)
    (h : selected s m a = some pi) :
    ∃ p, s.pat? m.id pi = some p ∧ (evalCall s m a).2 = (respond m pi p.responders (s.countOf m.id pi)).2 := by
  rw [selected_eq] at h
  rw [evalCall_eq]
  cases hr : s.resolve m a with
  | miss o => simp [hr] at h
  | hit pi0 p =>
    obtain rfl : pi0 = pi := by simpa [hr] using h
    have hp := resolve_hit hr
    exact ⟨p, hp, by simp [Shared.apply, Shared.answer, Shared.countOf, hp]⟩

theorem call_countOf (s : Shared α ρ) (m : MethodInfo) (a : α) (id pi : Nat) :
    (call s m a).1.countOf id pi =
      s.countOf id pi + (if id = m.id ∧ selected s m a = some pi then 1 else 0) := by
  rw [← evalCall_countOf]
  unfold call
  split
  · next h => rw [h]; rfl
  · rfl

/-- a history of calls, made one after the other -/
def runCalls (s : Shared α ρ) : List (MethodInfo × α) → Shared α ρ
  | [] => s
  | (m, a) :: rest => runCalls (call s m a).1 rest

/-- how many calls of the history are matched by pattern `(id, pi)` -/
def matchCount (id pi : Nat) (s : Shared α ρ) : List (MethodInfo × α) → Nat
  | [] => 0
  | (m, a) :: rest =>
    (if id = m.id ∧ selected s m a = some pi then 1 else 0) + matchCount id pi (call s m a).1 rest

theorem runCalls_countOf (s : Shared α ρ) (calls : List (MethodInfo × α)) (id pi : Nat) :
    (runCalls s calls).countOf id pi = s.countOf id pi + matchCount id pi s calls := by
  induction calls generalizing s with
  | nil => rfl
  | cons c rest ih => rw [runCalls, matchCount, ih, call_countOf, Nat.add_assoc]

theorem uniqueIds_runCalls (s : Shared α ρ) (calls : List (MethodInfo × α)) (h : s.UniqueIds) :
    (runCalls s calls).UniqueIds := by
  induction calls generalizing s with
  | nil => exact h
  | cons c rest ih => exact ih _ (uniqueIds_call s c.1 c.2 h)

/-- with distinct ids, the counter read through the lookup is the counter stored in the table entry -/
theorem countOf_of_mem (s : Shared α ρ) (hu : s.UniqueIds) (fm : FnMocker α ρ) (hm : fm ∈ s.mockers) (pi : Nat)
    (p : Pattern α ρ) (hp : fm.pats[pi]? = some p) : s.countOf fm.info.id pi = p.count := by
  rw [Shared.countOf, pat?_of_find (find_of_mem hu hm), hp]

end Unimock
