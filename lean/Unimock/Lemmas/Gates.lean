import Unimock.Model.Gates
import Unimock.Model.Lifecycle
import Unimock.Lemmas.Assemble
/-!
# The model's lifecycle / evaluation functions, restated over the `Gates` observations

Each lemma says: the hand-written model function is the concretisation of the `spec…` function of `Model/Gates.lean`
applied to what the model state lets the code observe. `Props/*` compose these with the (kernel-decided) statement that
the interpreted *source* skeleton equals the same `spec…` function on every observation.
-/
namespace Unimock
open Gates

variable {α ρ : Type}

/-- what `teardown` on instance `x` (helper chain and value chain already released) observes -/
def obsOf (w : World α ρ) (x : Inst) (t : Nat) (panicking : Bool) : Obs where
  original := x.original
  panicking := panicking
  others := decide (w.strong x.sh > 1)
  helperAlive := false
  parkedAlive := false
  otherThread := match w.mocks[x.sh]? with
    | some m => decide (t ≠ m.creator)
    | none => false
  reasons := match w.mocks[x.sh]? with
    | some m => !m.shared.reasons.isEmpty
    | none => false
  verifyErrs := match w.mocks[x.sh]? with
    | some m => !(verifyAll m.shared).isEmpty
    | none => false

/-- the verdict with its payload -/
def concretise (w : World α ρ) (x : Inst) : Verdict → Teardown
  | .ok => .ok
  | .panicClones => .panicClones
  | .panicThread => .panicThread
  | .errsReasons => match w.mocks[x.sh]? with
    | some m => .errs m.shared.reasons
    | none => .ok
  | .errsVerify => match w.mocks[x.sh]? with
    | some m => .errs (verifyAll m.shared)
    | none => .ok
  | .fellThrough => .ok

theorem teardownVerdict_eq_spec (w : World α ρ) (x : Inst) (t : Nat) (p : Bool) :
    teardownVerdict w x t p = concretise w x (specVerdict (obsOf w x t p)).1 := by
  -- both sides are the same chain of tests: `concretise` goes to its leaves
  simp only [specVerdict, apply_ite (concretise w x)]
  cases hm : w.mocks[x.sh]? <;> simp [teardownVerdict, obsOf, concretise, hm]

/-- the instance-local part of `teardown`: flags set, helper chain and value chain released -/
def obsInst (w : World α ρ) (i : Nat) (x : Inst) (t : Nat) (p : Bool) : Obs :=
  let x' := { x with tornDown := true, helper := 0, parked := 0 }
  let o := obsOf (w.setInst i x') x' t p
  { o with helperAlive := decide (x.helper > 0), parkedAlive := decide (x.parked > 0) }

theorem specVerdict_ignores_own (o : Obs) (a b : Bool) :
    specVerdict { o with helperAlive := a, parkedAlive := b } = specVerdict o := rfl

theorem teardownInst_eq_spec (w : World α ρ) (i : Nat) (x : Inst) (t : Nat) (p : Bool) :
    (teardownInst w i x t p).2 =
      concretise (w.setInst i { x with tornDown := true, helper := 0, parked := 0 })
        { x with tornDown := true, helper := 0, parked := 0 } (specVerdict (obsInst w i x t p)).1 := by
  unfold teardownInst obsInst
  simp only [specVerdict_ignores_own]
  exact teardownVerdict_eq_spec _ _ _ _

/-- the instance after `teardown`, from the flags the statement list leaves behind -/
def applyFlags (x : Inst) (f : Flags) : Inst :=
  { x with tornDown := x.tornDown || f.tornDown,
           helper := if f.helperDropped then 0 else x.helper,
           parked := if f.chainDropped then 0 else x.parked }

theorem teardownInst_flags (w : World α ρ) (i : Nat) (x : Inst) (t : Nat) (p : Bool) :
    (teardownInst w i x t p).1 = w.setInst i (applyFlags x (specVerdict (obsInst w i x t p)).snd) := by
  simp [teardownInst, specVerdict, applyFlags]

def iflags (x : Inst) : IFlags := ⟨x.original, x.tornDown, x.verifyInDrop⟩

theorem dropInst_eq_spec (w : World α ρ) (i t : Nat) (p : Bool) (x : Inst) (h : w.inst? i = some x) :
    dropInst w i t p =
      match specDrop (iflags x) with
      | .teardown => ((teardownInst w i x t p).1.free i, (teardownInst w i x t p).2)
      | _ => (w.free i, .ok) := by
  rw [dropInst, h, specDrop, iflags]
  dsimp only
  cases x.tornDown <;> cases x.verifyInDrop <;> rfl

theorem step_verify_eq_spec (env : Env α ρ) (w : World α ρ) (i t : Nat) (x : Inst)
    (h : w.inst? i = some x) (ha : x.alive = true) :
    step env w (.verify i t) =
      match specVerify (iflags x) with
      | .panicNotOriginal => ((dropInst w i t true).1, .panicOnClone)
      | _ => ((teardownInst w i x t false).1.free i, .teardown (teardownInst w i x t false).2) := by
  dsimp only [step]
  rw [h, specVerify, iflags]
  dsimp only
  rw [ha]
  cases x.original <;> rfl

theorem step_noVerify_eq_spec (env : Env α ρ) (w : World α ρ) (i t : Nat) (x : Inst)
    (h : w.inst? i = some x) (ha : x.alive = true) :
    step env w (.noVerify i t) =
      match specNoVerify (iflags x) with
      | .panicNotOriginal => ((dropInst w i t true).1, .panicOnClone)
      | _ => (w.setInst i { x with verifyInDrop := false }, .ok) := by
  dsimp only [step]
  rw [h, specNoVerify, iflags]
  dsimp only
  rw [ha]
  cases x.original <;> rfl

/-! ### evaluation -/

def fbOf : Fallback → Fb
  | .error => .error
  | .unmock => .unmock

def concretiseNoMock (m : MethodInfo) : NoMock → EvalOutcome ρ
  | .callDefault => .contDefault
  | .unmock => .contUnmock
  | .errNoMockImplementation => .err (.noMockImplementation m)
  | .errNoMatchingCallPatterns => .err (.noMatchingCallPatterns m)

theorem evalCall_noMocker_eq_spec (s : Shared α ρ) (m : MethodInfo) (a : α) (h : s.find m.id = none) :
    evalCall s m a = (s, concretiseNoMock m (specNoMocker m.hasDefaultImpl m.partialByDefault (fbOf s.fallback))) := by
  unfold evalCall specNoMocker
  simp only [h]
  cases m.hasDefaultImpl
  · cases m.partialByDefault
    · cases s.fallback <;> rfl
    · rfl
  · rfl

theorem evalCall_noMatch_eq_spec (s : Shared α ρ) (m : MethodInfo) (a : α) (fm : FnMocker α ρ)
    (h : s.find m.id = some fm) (hm : fm.mode = .anyOrder) (hs : scan fm.pats a 0 = none) :
    evalCall s m a = (s, concretiseNoMock m (specNoMatch (fbOf s.fallback))) := by
  unfold evalCall
  simp only [h, hm, hs]
  cases s.fallback <;> rfl

def variantOf : Resp ρ → RVariant
  | .ret _ _ => .ret
  | .answer _ => .answer
  | .applyDefaultImpl => .applyDefaultImpl
  | .unmock => .unmock
  | .panic _ => .panic

/-- which outcomes a dispatch class allows -/
def fitsDisp : Disp → EvalOutcome ρ → Prop
  | .returnOrCannotReturnTwice, .ret _ => True
  | .returnOrCannotReturnTwice, .err (.cannotReturnValueMoreThanOnce _ _) => True
  | .contAnswer, .contAnswer _ => True
  | .errExplicitPanic, .err (.explicitPanic _ _ _) => True
  | .contUnmock, .contUnmock => True
  | .contDefault, .contDefault => True
  | _, _ => False

theorem respond_fits_spec (m : MethodInfo) (pi : Nat) (rs : List (Responder ρ)) (ci ri : Nat) (r : Responder ρ)
    (hf : findResponderIdx rs ci = some ri) (hr : rs[ri]? = some r) :
    fitsDisp (specDispatch (variantOf r.resp)) (respond m pi rs ci).2 := by
  simp only [respond, hf, hr]
  obtain ⟨st, resp, taken⟩ := r
  cases resp with
  | ret v once => cases once <;> cases taken <;> trivial
  | _ => trivial

/-! ### assembly: `Sink::push` -/

/-- what `push` observes of the assembler and the incoming terminal clause -/
def pushObs (a : Asm α ρ) (t : Terminal α ρ) : PObs where
  outputError := t.b.outputError
  exists_ := ((newPattern a t.b).1.mockers.find? (·.info.id = t.info.id)).isSome
  modeDiffers := match (newPattern a t.b).1.mockers.find? (·.info.id = t.info.id) with
    | some fm => decide (fm.mode ≠ t.b.mode)
    | none => false

/-- the model's `Asm.push` yields the result class the observation-level specification names; on an output error
    `new_call_pattern` has not run -/
theorem push_eq_spec (a : Asm α ρ) (t : Terminal α ρ) :
    match (specPush (pushObs a t)).1 with
    | .errOutput => a.push t = .error .outputError
    | .errMode => ∃ fm, (newPattern a t.b).1.mockers.find? (·.info.id = t.info.id) = some fm ∧
        a.push t = .error (.modeConflict fm.info fm.mode t.b.mode)
    | .appended => ∃ a', a.push t = .ok a' ∧ a'.cur = (newPattern a t.b).1.cur ∧ a'.mockers.length = a.mockers.length
    | .inserted => ∃ a', a.push t = .ok a' ∧ a'.cur = (newPattern a t.b).1.cur ∧ a'.mockers.length = a.mockers.length + 1
    | .fellThrough => False := by
  unfold specPush pushObs
  rw [newPattern_mockers, push_eq]
  cases t.b.outputError with
  | true => rfl
  | false =>
    rw [if_neg Bool.false_ne_true, if_neg Bool.false_ne_true]
    cases a.mockers.find? (·.info.id = t.info.id) with
    | none => exact ⟨_, rfl, rfl, List.length_append⟩
    | some fm =>
      by_cases hm : fm.mode = t.b.mode
      · simp only [Option.isSome_some, hm, ne_eq, not_true_eq_false, decide_false, ↓reduceIte, Bool.false_eq_true]
        exact ⟨_, rfl, rfl, List.length_map _⟩
      · simp only [Option.isSome_some, ne_eq, hm, not_false_eq_true, decide_true, ↓reduceIte]
        exact ⟨fm, rfl, rfl⟩

end Unimock
