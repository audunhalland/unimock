import Unimock.Model.Core
/-! Lemmas about the pattern builder: where responders start and what expectation results. -/
namespace Unimock
variable {α ρ : Type}

/-- how far one segment advances `current_response_index` (and the expectation's minimum) -/
def Segment.advance (topLevel : Bool) (mode : Mode) (s : Segment ρ) : Nat :=
  match s.quant with
  | .once => 1
  | .nTimes n => n
  | .atLeastTimes n => n
  | .unquantified => if implicitOnce topLevel mode s.viaQRV then 1 else 0

/-- exactness resulting from a chain -/
def chainExactness (tl : Bool) (mode : Mode) (init : Exactness) : List (Segment ρ) → Exactness
  | [] => init
  | [s] =>
    match s.quant with
    | .once | .nTimes _ => .exact
    | .atLeastTimes _ => .atLeast
    | .unquantified => if implicitOnce tl mode s.viaQRV then .exact else init
  | _ :: t => chainExactness tl mode .atLeastPlusOne t

theorem applyQuant_eq (b : Builder α ρ) (tl : Bool) (s : Segment ρ) :
    b.applyQuant tl s =
      { b with min := b.min + s.advance tl b.mode, idx := b.idx + s.advance tl b.mode
               ex := chainExactness tl b.mode b.ex [s] } := by
  unfold Builder.applyQuant Segment.advance chainExactness
  cases s.quant with
  | unquantified => dsimp only; split <;> rfl
  | _ => rfl

theorem segment_eq (b : Builder α ρ) (tl : Bool) (s : Segment ρ) (l : Bool) :
    b.segment tl s l =
      { b with responders := b.responders ++ [⟨b.idx, s.stored, false⟩]
               min := b.min + s.advance tl b.mode, idx := b.idx + s.advance tl b.mode
               ex := if l then chainExactness tl b.mode b.ex [s] else .atLeastPlusOne } := by
  unfold Builder.segment
  rw [applyQuant_eq]
  cases l <;> rfl

/-- The builder after a whole chain, in closed form: one responder per segment, starting at the
    running sums of the advances; minimum and response index grown by their total; the exactness
    decided by the last segment. -/
theorem buildChain_eq (b : Builder α ρ) (tl : Bool) (segs : List (Segment ρ)) :
    buildChain b tl segs =
      { b with
        responders := b.responders ++ segs.mapIdx fun i s =>
          ⟨b.idx + ((segs.take i).map (Segment.advance tl b.mode)).sum, s.stored, false⟩
        min := b.min + (segs.map (Segment.advance tl b.mode)).sum
        idx := b.idx + (segs.map (Segment.advance tl b.mode)).sum
        ex := chainExactness tl b.mode b.ex segs } := by
  induction segs generalizing b with
  | nil => simp [buildChain, chainExactness]
  | cons s t ih =>
    cases t with
    | nil => simp [buildChain, segment_eq]
    | cons s2 t2 =>
      simp only [buildChain]
      rw [ih, segment_eq]
      simp [List.mapIdx_cons, chainExactness, Nat.add_assoc]

end Unimock
